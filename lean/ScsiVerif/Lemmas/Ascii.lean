/-!
Strings on their UTF-8 bytes.  `String.length`, `toList` and `drop` decode UTF-8 by well-founded recursion, which the
kernel evaluates slowly, while the bytes of a literal are cheap.  For an ASCII string (every name and text of the
tables is one) the characters are the bytes: `ofList_bytes`.  `length_eq` is rewritten with before a kernel evaluation.
-/
namespace Ascii

def bytesN (s : String) : List Nat := s.toByteArray.data.toList.map UInt8.toNat

theorem encode_ascii : ∀ n < 128, String.utf8EncodeChar (Char.ofNat n) = [n.toUInt8] := by decide +kernel

theorem utf8Encode_ascii (bs : List UInt8) (h : ∀ b ∈ bs, b.toNat < 128) :
    ((bs.map UInt8.toNat).map Char.ofNat).utf8Encode = bs.toByteArray := by
  induction bs with
  | nil => rfl
  | cons b bs ih =>
    rw [List.map_cons, List.map_cons, List.utf8Encode_cons, List.utf8Encode_singleton,
      encode_ascii _ (h b (by simp)), ih (fun x hx => h x (by simp [hx])),
      show b.toNat.toUInt8 = b from UInt8.ofNat_toNat, ← List.toByteArray_append]
    rfl

theorem ofList_bytes (s : String) (h : (bytesN s).all (· < 128) = true) :
    s = String.ofList ((bytesN s).map Char.ofNat) := by
  apply String.toByteArray_inj.mp
  rw [String.toByteArray_ofList, bytesN, utf8Encode_ascii]
  · exact ByteArray.ext (by simp)
  · intro b hb
    simpa using List.all_eq_true.mp h b.toNat (List.mem_map.mpr ⟨b, hb, rfl⟩)

/-- Unconditional, so that it can be rewritten with under binders; the kernel takes the first branch and never
evaluates the second, which is not `s.length` again so that `simp only` does not loop. -/
theorem length_eq (s : String) :
    s.length = if (bytesN s).all (· < 128) then (bytesN s).length else s.toList.length := by
  split
  · rename_i h
    rw [congrArg String.length (ofList_bytes s h), String.length_ofList, List.length_map]
  · exact String.length_toList.symm

end Ascii
