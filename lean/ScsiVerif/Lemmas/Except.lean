/-!
`Except`-valued programs: what a successful `do` block says about its steps, and list traversals (`mapM`, `foldlM`)
whose steps all succeed or of which one fails.
-/
namespace Except
variable {ε α β γ : Type}

theorem bind_eq_ok {x : Except ε α} {f : α → Except ε β} {b : β}
    (h : (x >>= f) = .ok b) : ∃ a, x = .ok a ∧ f a = .ok b := by
  cases x with
  | error e => cases h
  | ok a => exact ⟨a, rfl, h⟩

theorem bind_ok_right (x : Except ε α) : (x >>= fun r => Except.ok r) = x := by cases x <;> rfl

theorem mapM_map_ok (f : β → Except ε γ) (e : α → β) (g : α → γ) (l : List α)
    (h : ∀ x ∈ l, f (e x) = .ok (g x)) : (l.map e).mapM f = .ok (l.map g) := by
  induction l with
  | nil => rfl
  | cons x xs ih =>
    rw [List.map_cons, List.mapM_cons, h x (by simp), ih (fun y hy => h y (by simp [hy]))]
    rfl

theorem mapM_mapIdx_ok (f : β → Except ε γ) (e : Nat → α → β) (g : α → γ) (l : List α)
    (h : ∀ i, ∀ x ∈ l, f (e i x) = .ok (g x)) : (l.mapIdx e).mapM f = .ok (l.map g) := by
  induction l generalizing e with
  | nil => rfl
  | cons x xs ih =>
    rw [List.mapIdx_cons, List.mapM_cons, h 0 x (by simp),
      ih (fun i => e (i + 1)) (fun i y hy => h (i + 1) y (by simp [hy]))]
    rfl

theorem mapM_error (f : α → Except ε β) (pre : List α) (x : α) (post : List α) (e : ε)
    (hpre : ∀ y ∈ pre, ∃ b, f y = .ok b) (hx : f x = .error e) : (pre ++ x :: post).mapM f = .error e := by
  induction pre with
  | nil => rw [List.nil_append, List.mapM_cons, hx]; rfl
  | cons y ys ih =>
    obtain ⟨b, hb⟩ := hpre y (by simp)
    rw [List.cons_append, List.mapM_cons, hb, ih (fun z hz => hpre z (by simp [hz]))]
    rfl

theorem foldlM_append (f : List β → α → Except ε (List β)) (g : α → Option β)
    (hf : ∀ acc a acc', f acc a = .ok acc' → acc' = acc ++ (g a).toList) (d : List α) (acc c : List β)
    (h : d.foldlM f acc = .ok c) : c = acc ++ d.filterMap g := by
  induction d generalizing acc with
  | nil => cases h; simp
  | cons a rest ih =>
    rw [List.foldlM_cons] at h
    obtain ⟨acc', h1, h2⟩ := bind_eq_ok h
    rw [ih acc' h2, hf acc a acc' h1]
    cases hg : g a <;> simp [hg]

theorem foldlM_append_ok (f : List β → α → Except ε (List β)) (g : α → Option β) (d : List α)
    (hf : ∀ acc, ∀ a ∈ d, f acc a = .ok (acc ++ (g a).toList)) (acc : List β) :
    d.foldlM f acc = .ok (acc ++ d.filterMap g) := by
  induction d generalizing acc with
  | nil => simp [pure, Except.pure]
  | cons a rest ih =>
    rw [List.foldlM_cons, hf acc a (by simp)]
    show rest.foldlM f (acc ++ (g a).toList) = _
    rw [ih (fun acc b hb => hf acc b (by simp [hb]))]
    cases hg : g a <;> simp [hg]

end Except
