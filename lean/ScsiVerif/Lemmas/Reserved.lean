import ScsiVerif.Lemmas.Decode
/-!
Reading bits the standard leaves *reserved*: a table entry whose bits are disjoint from every field of
the standard's structure reads zero from a conformant device's data.  Used where a decoder looks at a
structure through a table that belongs to another format of the same response (REPORT TARGET PORT
GROUPS reads FORMAT TYPE from the byte that, in the length-only header format, is byte 0 of the first
descriptor).  `decodeInto_any` / `tableOK`: a table with non-zero masks and distinct keys decodes any
data to `decodedOf`, which is all that can be said where a decoder applies a table to bytes of no claimed format.
-/
namespace DecL
open Conv PVal Std DataCompat

def reservedB (L : Nat) (fs : List DField) (p w : Nat) : Bool :=
  fs.all (fun g => decide (g.lsb L + g.width ≤ p) || decide (p + w ≤ g.lsb L))

def reservedKey (L : Nat) (fs : List DField) (lay : Layout) (k : String) : Bool :=
  match layoutGet? lay k with
  | some (.bits m off) => bitsWF L m off && reservedB L fs (lsbPos L m off) (maskWidth m)
  | _ => false

theorem decodeMask_reserved (L : Nat) (fs : List DField) (hf : formatOK L fs = true) (v : Vals) (hr : InRangeD fs v)
    (tr : Bytes) (m off : Nat) (hwf : bitsWF L m off = true)
    (hres : reservedB L fs (lsbPos L m off) (maskWidth m) = true) :
    decodeMask (encodeD L fs v ++ tr) m off = 0 := by
  obtain ⟨hb, hl, hx⟩ := encodeD_facts L fs hf v hr
  rw [decodeMask_append _ _ _ _ (by rw [hl]; exact (bitsWF_spec hwf).2.2), decodeMask_wf hwf hb hl, hx]
  apply xorAll_field_other _ (termsD_ok hr)
  intro t ht
  obtain ⟨g, hg, rfl⟩ := List.mem_map.mp ht
  unfold reservedB at hres
  simp only [List.all_eq_true, Bool.or_eq_true, decide_eq_true_eq] at hres
  exact hres g hg

theorem decodeInto_any (data : Bytes) (lay : Layout)
    (hnz : ∀ kf ∈ lay, ∀ off, kf.2 ≠ .bits 0 off) (hkeys : lay.Pairwise (fun a b => a.1 ≠ b.1)) :
    decodeInto data lay [] = .ok (ofDict (decodedOf data lay)) :=
  decodeInto_of_decodeBits (decodeBits_go data lay [] hnz hkeys (fun _ h => nomatch h))
    (Assoc.pairwise_of_keys (decodedOf_keys data lay) hkeys) [] (fun _ h => nomatch h)

def tableOK (lay : Layout) : Bool :=
  lay.all (fun kf => match kf.2 with | .bits m _ => m != 0 | .blob _ _ _ => true) &&
  pairwiseB (fun (a b : String × FieldSpec) => a.1 != b.1) lay

theorem tableOK_spec {lay : Layout} (h : tableOK lay = true) :
    (∀ kf ∈ lay, ∀ off, kf.2 ≠ .bits 0 off) ∧ lay.Pairwise (fun a b => a.1 ≠ b.1) := by
  unfold tableOK at h
  simp only [Bool.and_eq_true, List.all_eq_true] at h
  refine ⟨?_, pairwiseB_keys h.2⟩
  intro kf hkf off he
  have := h.1 kf hkf
  rw [he] at this
  simp at this

theorem decodeInto_reserved (b : Block) (hf : formatOK b.len b.rel = true) (v : Vals) (hr : InRangeD b.rel v) (tr : Bytes)
    (lay : Layout) (hok : tableOK lay = true) (k : String) (hk : reservedKey b.len b.rel lay k = true) :
    ∃ r, decodeInto (b.enc v ++ tr) lay [] = .ok r ∧ getInt r k = .ok 0 := by
  obtain ⟨hnz, hkeys⟩ := tableOK_spec hok
  refine ⟨_, decodeInto_any _ lay hnz hkeys, ?_⟩
  unfold reservedKey at hk
  split at hk
  · rename_i m off hq
    simp only [Bool.and_eq_true] at hk
    unfold getInt
    rw [decodedOf, get?_ofDict_map lay (fun kf => decodeField (b.enc v ++ tr) kf.2) k _ hq]
    simp only [decodeField, ofVal]
    unfold Block.enc
    rw [decodeMask_reserved b.len b.rel hf v hr tr m off hk.1 hk.2]
  · cases hk

end DecL
