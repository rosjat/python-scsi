import ScsiVerif.Lemmas.Field
/-! Pure `Nat` facts about XOR-ing a list of disjoint shifted values ("terms") together. -/
namespace Conv

/-- a value `v` (< 2^w) placed at bit position `p` -/
structure Term where
  p : Nat
  w : Nat
  v : Nat
  deriving Repr, DecidableEq

def Term.val (t : Term) : Nat := t.v <<< t.p
def Term.ok (t : Term) : Prop := t.v < 2^t.w
def Term.inRange (t : Term) (i : Nat) : Prop := t.p ≤ i ∧ i < t.p + t.w
def Term.disj (a b : Term) : Prop := a.p + a.w ≤ b.p ∨ b.p + b.w ≤ a.p

instance (a b : Term) : Decidable (a.disj b) := by unfold Term.disj; infer_instance
instance (t : Term) (i : Nat) : Decidable (t.inRange i) := by unfold Term.inRange; infer_instance

def xorAll : List Term → Nat
  | [] => 0
  | t :: ts => t.val ^^^ xorAll ts

theorem Term.testBit_val (t : Term) (h : t.ok) (i : Nat) :
    t.val.testBit i = (decide (t.inRange i) && t.v.testBit (i - t.p)) :=
  testBit_shiftLeft_lt h t.p i

theorem Term.disj.not_inRange {a b : Term} (h : a.disj b) {i : Nat} (ha : a.inRange i) : ¬ b.inRange i := by
  unfold Term.disj at h
  unfold Term.inRange at ha ⊢
  omega

theorem xorAll_outside (ts : List Term) (hok : ∀ t ∈ ts, t.ok) (i : Nat)
    (h : ∀ t ∈ ts, ¬ t.inRange i) : (xorAll ts).testBit i = false := by
  induction ts with
  | nil => simp [xorAll]
  | cons t ts ih =>
    simp only [xorAll, Nat.testBit_xor]
    rw [t.testBit_val (hok t (by simp)), ih (fun x hx => hok x (by simp [hx])) (fun x hx => h x (by simp [hx]))]
    have := h t (by simp)
    simp [this]

theorem xorAll_inside (ts : List Term) (hok : ∀ t ∈ ts, t.ok) (hd : ts.Pairwise Term.disj)
    (t : Term) (ht : t ∈ ts) (i : Nat) (hi : t.inRange i) :
    (xorAll ts).testBit i = t.v.testBit (i - t.p) := by
  induction ts with
  | nil => simp at ht
  | cons a ts ih =>
    simp only [xorAll, Nat.testBit_xor]
    rw [List.pairwise_cons] at hd
    rcases List.mem_cons.mp ht with rfl | h
    · rw [t.testBit_val (hok t (by simp)), xorAll_outside ts (fun x hx => hok x (by simp [hx])) i
        (fun x hx => (hd.1 x hx).not_inRange hi)]
      simp [hi]
    · rw [a.testBit_val (hok a (by simp)), ih (fun x hx => hok x (by simp [hx])) hd.2 h]
      simp [show ¬ a.inRange i from fun hai => (hd.1 t h).not_inRange hai hi]

theorem testBit_xorAll {ts : List Term} (hok : ∀ t ∈ ts, t.ok) (hd : ts.Pairwise Term.disj) (i : Nat) :
    (xorAll ts).testBit i = true ↔ ∃ t ∈ ts, t.inRange i ∧ t.v.testBit (i - t.p) = true := by
  constructor
  · intro h
    by_cases hc : ∃ t ∈ ts, t.inRange i
    · obtain ⟨t, ht, hti⟩ := hc
      exact ⟨t, ht, hti, by rw [← xorAll_inside ts hok hd t ht i hti]; exact h⟩
    · rw [xorAll_outside ts hok i (fun t ht hti => hc ⟨t, ht, hti⟩)] at h
      cases h
  · rintro ⟨t, ht, hti, hb⟩
    rw [xorAll_inside ts hok hd t ht i hti]; exact hb

theorem xorAll_congr {ts ts' : List Term} (hok : ∀ t ∈ ts, t.ok) (hd : ts.Pairwise Term.disj)
    (hok' : ∀ t ∈ ts', t.ok) (hd' : ts'.Pairwise Term.disj)
    (h : ∀ t : Term, t.v ≠ 0 → (t ∈ ts ↔ t ∈ ts')) : xorAll ts = xorAll ts' := by
  apply Nat.eq_of_testBit_eq
  intro i
  rw [Bool.eq_iff_iff, testBit_xorAll hok hd, testBit_xorAll hok' hd']
  have nz : ∀ t : Term, t.v.testBit (i - t.p) = true → t.v ≠ 0 := by
    intro t hb e; rw [e] at hb; simp at hb
  constructor
  · rintro ⟨t, ht, hti, hb⟩; exact ⟨t, (h t (nz t hb)).mp ht, hti, hb⟩
  · rintro ⟨t, ht, hti, hb⟩; exact ⟨t, (h t (nz t hb)).mpr ht, hti, hb⟩

theorem xorAll_field (ts : List Term) (hok : ∀ t ∈ ts, t.ok) (hd : ts.Pairwise Term.disj)
    (t : Term) (ht : t ∈ ts) : (xorAll ts >>> t.p) % 2^t.w = t.v := by
  apply Nat.eq_of_testBit_eq
  intro i
  rw [testBit_field]
  by_cases hi : i < t.w
  · rw [xorAll_inside ts hok hd t ht (t.p + i) (by unfold Term.inRange; omega)]
    simp [hi]
  · simp [hi, testBit_of_lt (hok t ht) (Nat.le_of_not_lt hi)]

theorem xorAll_field_other (ts : List Term) (hok : ∀ t ∈ ts, t.ok) (p w : Nat)
    (hd : ∀ t ∈ ts, t.p + t.w ≤ p ∨ p + w ≤ t.p) : (xorAll ts >>> p) % 2^w = 0 := by
  apply Nat.eq_of_testBit_eq
  intro i
  rw [testBit_field, Nat.zero_testBit]
  by_cases hi : i < w
  · rw [xorAll_outside ts hok]
    · simp
    · intro t ht hr
      have := hd t ht
      unfold Term.inRange at hr; omega
  · simp [hi]

theorem xorAll_append (a b : List Term) : xorAll (a ++ b) = xorAll a ^^^ xorAll b := by
  induction a with
  | nil => simp [xorAll]
  | cons t ts ih => simp [xorAll, ih, Nat.xor_assoc]

theorem xorAll_perm {a b : List Term} (h : a.Perm b) : xorAll a = xorAll b := by
  induction h with
  | nil => rfl
  | cons x _ ih => simp [xorAll, ih]
  | swap x y l => simp only [xorAll]; rw [← Nat.xor_assoc, ← Nat.xor_assoc, Nat.xor_comm y.val]
  | trans _ _ ih1 ih2 => exact ih1.trans ih2

theorem xorAll_rebuild (N : Nat) (ts : List Term) (hd : ts.Pairwise Term.disj)
    (hv : ∀ t ∈ ts, t.v = (N >>> t.p) % 2 ^ t.w)
    (hcov : ∀ i, N.testBit i = true → ∃ t ∈ ts, t.inRange i) : xorAll ts = N := by
  have hok : ∀ t ∈ ts, t.ok := fun t ht => by rw [Term.ok, hv t ht]; exact Nat.mod_lt _ (Nat.two_pow_pos _)
  have hbit : ∀ t ∈ ts, ∀ i, t.inRange i → t.v.testBit (i - t.p) = N.testBit i := by
    intro t ht i hi
    unfold Term.inRange at hi
    rw [hv t ht, testBit_field, show t.p + (i - t.p) = i by omega]
    simp [show i - t.p < t.w by omega]
  apply Nat.eq_of_testBit_eq
  intro i
  rw [Bool.eq_iff_iff, testBit_xorAll hok hd]
  constructor
  · rintro ⟨t, ht, hti, hb⟩; rw [← hbit t ht i hti]; exact hb
  · intro hN
    obtain ⟨t, ht, hti⟩ := hcov i hN
    exact ⟨t, ht, hti, by rw [hbit t ht i hti]; exact hN⟩

theorem add_eq_or_of_and_eq_zero (a b : Nat) (h : a &&& b = 0) : a + b = a ||| b := by
  have ha : a < 2 ^ (a + b + 1) := Nat.lt_of_lt_of_le Nat.lt_two_pow_self (Nat.pow_le_pow_right (by decide) (by omega))
  have hb : b < 2 ^ (a + b + 1) := Nat.lt_of_lt_of_le Nat.lt_two_pow_self (Nat.pow_le_pow_right (by decide) (by omega))
  have hx : BitVec.ofNat (a + b + 1) a &&& BitVec.ofNat (a + b + 1) b = 0#(a + b + 1) := by
    apply BitVec.eq_of_toNat_eq
    simp [BitVec.toNat_and, Nat.mod_eq_of_lt ha, Nat.mod_eq_of_lt hb, h]
  have h1 := BitVec.add_eq_or_of_and_eq_zero _ _ hx
  have h2 := congrArg BitVec.toNat h1
  rw [BitVec.toNat_add_of_and_eq_zero hx] at h2
  simpa [Nat.mod_eq_of_lt ha, Nat.mod_eq_of_lt hb] using h2

theorem or_eq_xor_of_and_eq_zero (a b : Nat) (h : a &&& b = 0) : a ||| b = a ^^^ b := by
  apply Nat.eq_of_testBit_eq
  intro i
  have := congrArg (fun x => Nat.testBit x i) h
  simp only [Nat.testBit_and, Nat.zero_testBit] at this
  rw [Nat.testBit_or, Nat.testBit_xor]
  cases ha : a.testBit i <;> cases hb : b.testBit i <;> simp_all

theorem add_eq_xor_of_and_eq_zero (a b : Nat) (h : a &&& b = 0) : a + b = a ^^^ b := by
  rw [add_eq_or_of_and_eq_zero a b h, or_eq_xor_of_and_eq_zero a b h]

/-- adding disjoint terms is XOR-ing them: no bit is set in two of them -/
theorem sum_eq_xorAll {ts : List Term} (hok : ∀ t ∈ ts, t.ok) (hd : ts.Pairwise Term.disj) :
    ts.foldr (fun t acc => t.val + acc) 0 = xorAll ts := by
  induction ts with
  | nil => rfl
  | cons t ts ih =>
    rw [List.pairwise_cons] at hd
    have hok' : ∀ x ∈ ts, x.ok := fun x hx => hok x (by simp [hx])
    rw [List.foldr_cons, xorAll, ih hok' hd.2]
    apply add_eq_xor_of_and_eq_zero
    apply Nat.eq_of_testBit_eq
    intro i
    rw [Nat.testBit_and, Nat.zero_testBit, Term.testBit_val _ (hok t (by simp))]
    by_cases hi : t.inRange i
    · rw [xorAll_outside _ hok' i (fun x hx => (hd.1 x hx).not_inRange hi), Bool.and_false]
    · simp [hi]

end Conv
