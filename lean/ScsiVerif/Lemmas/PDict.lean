import ScsiVerif.Model.PV
import ScsiVerif.Lemmas.Assoc
/-!
Laws of the nested-value dictionaries (`PDict`, Python dicts in insertion order).  Freshness of a key is
non-membership in the key list `d.map (·.1)`, which is a closed list of strings wherever the decoders add a key.
-/
namespace PVal

theorem ofDict_keys (d : Conv.Dict) : (ofDict d).map (·.1) = d.map (·.1) := by
  simp [ofDict, List.map_map, Function.comp_def]

theorem any_key (d : PDict) (k : String) : d.any (·.1 == k) = true ↔ k ∈ d.map (·.1) := by
  simp only [List.any_eq_true, beq_iff_eq, List.mem_map]

theorem set_new (d : PDict) (k : String) (x : PV) (h : k ∉ d.map (·.1)) : d.set k x = d ++ [(k, x)] := by
  unfold PDict.set
  rw [if_neg (fun hany => h ((any_key d k).mp hany))]

theorem set_mem_other (d : PDict) (k k' : String) (v v' : PV) (h : (k, v) ∈ d) (hne : k ≠ k') :
    (k, v) ∈ d.set k' v' := by
  unfold PDict.set
  split
  · exact List.mem_map.mpr ⟨(k, v), h, by rw [if_neg (by simpa using hne)]⟩
  · exact List.mem_append_left _ h

theorem update_new (d e : PDict) (he : e.Pairwise (fun a b => a.1 ≠ b.1))
    (hd : ∀ k ∈ e.map (·.1), k ∉ d.map (·.1)) : d.update e = d ++ e := by
  unfold PDict.update
  induction e generalizing d with
  | nil => simp
  | cons x e ih =>
    rw [List.pairwise_cons] at he
    rw [List.foldl_cons, set_new d x.1 x.2 (hd x.1 (by simp)),
      ih (d ++ [x]) he.2 (by
        intro k hk hm
        obtain ⟨y, hy, rfl⟩ := List.mem_map.mp hk
        rw [List.map_append, List.mem_append] at hm
        rcases hm with h | h
        · exact hd y.1 (List.mem_map_of_mem (List.mem_cons_of_mem _ hy)) h
        · exact he.1 y hy (List.mem_singleton.mp h).symm)]
    simp

theorem get?_new (d : PDict) (k : String) (h : k ∉ d.map (·.1)) : d.get? k = none := Assoc.find_eq_none.mpr h

theorem get?_concat (d : PDict) (k : String) (x : PV) (h : k ∉ d.map (·.1)) : (d ++ [(k, x)]).get? k = some x := by
  rw [PDict.get?, Assoc.find_concat_new d k k x h, if_pos rfl]

theorem get?_cons_self (k : String) (x : PV) (d : PDict) : PDict.get? ((k, x) :: d) k = some x := by
  simp [PDict.get?]

theorem get?_cons_ne (k k' : String) (x : PV) (d : PDict) (h : k' ≠ k) : PDict.get? ((k', x) :: d) k = d.get? k := by
  simp [PDict.get?, h]

theorem replace_fst (k : String) (x : PV) (kv : String × PV) : (if (kv.1 == k) = true then (k, x) else kv).1 = kv.1 := by
  split
  · rename_i e; exact (beq_iff_eq.mp e).symm
  · rfl

theorem find?_replace (d : PDict) (k k' : String) (x : PV) :
    (d.map fun kv => if (kv.1 == k) = true then (k, x) else kv).find? (·.1 == k') =
      (d.find? (·.1 == k')).map fun kv => if (kv.1 == k) = true then (k, x) else kv := by
  rw [List.find?_map]
  congr 2
  funext kv
  simp only [Function.comp, replace_fst]

theorem get?_set (d : PDict) (k k' : String) (x : PV) :
    (d.set k x).get? k' = if k' = k then some x else d.get? k' := by
  unfold PDict.set
  split
  · rename_i hany
    unfold PDict.get?
    rw [find?_replace]
    cases hf : d.find? (·.1 == k') with
    | none =>
      obtain ⟨y, hy, e⟩ := List.any_eq_true.mp hany
      rw [if_neg (fun (hk : k' = k) => absurd (hk ▸ e) (List.find?_eq_none.mp hf y hy))]
      rfl
    | some y =>
      have hy : y.1 = k' := by simpa using List.find?_some hf
      rw [Option.map_some, hy]
      by_cases hk : k' = k
      · rw [if_pos (beq_iff_eq.mpr hk), if_pos hk]
        rfl
      · rw [if_neg (by simpa using hk), if_neg hk]
  · rename_i hany
    exact Assoc.find_concat_new d k k' x (fun hm => hany ((any_key d k).mpr hm))

theorem get?_set_ne (d : PDict) (k k' : String) (x : PV) (hne : k ≠ k') : (d.set k' x).get? k = d.get? k := by
  rw [get?_set, if_neg hne]

theorem get?_set_self (d : PDict) (k : String) (x : PV) : (d.set k x).get? k = some x := by
  rw [get?_set, if_pos rfl]

theorem set_mem (d : PDict) (k : String) (v : PV) : (k, v) ∈ d.set k v := Assoc.find_mem (get?_set_self d k v)

theorem keys_del (d : PDict) (k k' : String) (h : k ∈ (d.del k').map (·.1)) : k ∈ d.map (·.1) := by
  obtain ⟨kv, hkv, e⟩ := List.mem_map.mp h
  exact e ▸ List.mem_map_of_mem (List.mem_filter.mp hkv).1

theorem get?_del_ne (d : PDict) (k k' : String) (hne : k ≠ k') : (d.del k').get? k = d.get? k := by
  unfold PDict.get? PDict.del
  rw [Assoc.find_filter_ne, if_neg hne]

theorem getInt_set_ne (d : PDict) (k k' : String) (x : PV) (hne : k ≠ k') : getInt (d.set k' x) k = getInt d k := by
  unfold getInt
  rw [get?_set_ne d k k' x hne]

theorem getInt_del_ne (d : PDict) (k k' : String) (hne : k ≠ k') : getInt (d.del k') k = getInt d k := by
  unfold getInt
  rw [get?_del_ne d k k' hne]

theorem pairwise_concat {d : PDict} (hd : d.Pairwise (fun a b => a.1 ≠ b.1)) (k : String) (x : PV) (h : k ∉ d.map (·.1)) :
    (d ++ [(k, x)]).Pairwise (fun a b => a.1 ≠ b.1) := by
  rw [List.pairwise_append]
  refine ⟨hd, by simp, ?_⟩
  intro a ha b hb
  rw [List.mem_singleton.mp hb]
  exact fun e => h ((show a.1 = k from e) ▸ List.mem_map_of_mem (f := (·.1)) ha)

theorem set_keys (d : PDict) (k : String) (v : PV) (hk : d.Pairwise (fun a b => a.1 ≠ b.1)) :
    (d.set k v).Pairwise (fun a b => a.1 ≠ b.1) := by
  by_cases h : k ∈ d.map (·.1)
  · unfold PDict.set
    rw [if_pos ((any_key d k).mpr h), List.pairwise_map]
    exact hk.imp (fun hab => by rw [replace_fst, replace_fst]; exact hab)
  · rw [set_new d k v h]
    exact pairwise_concat hk k v h

theorem set_same (d : PDict) (k : String) (x : PV) (h : (k, x) ∈ d) (hk : d.Pairwise (fun a b => a.1 ≠ b.1)) :
    d.set k x = d := by
  unfold PDict.set
  rw [if_pos (List.any_eq_true.mpr ⟨(k, x), h, by simp⟩)]
  conv => rhs; rw [← List.map_id d]
  apply List.map_congr_left
  intro y hy
  by_cases hb : (y.1 == k) = true
  · rw [if_pos hb]
    rw [beq_iff_eq] at hb
    by_cases he : y = (k, x)
    · exact he.symm
    · exact absurd hb (Assoc.pairwise_forall (fun _ _ h => Ne.symm h) hk y hy (k, x) h he)
  · rw [if_neg hb]; rfl

end PVal
