/-!
Association lists keyed by name.  `Conv.layoutGet?`, `Conv.dictGet?`, `Cmd.Env.get?`, `PVal.PDict.get?`, `Iso.lookup`,
`EnumM.lookup`, `Std.lookup` all unfold to `(l.find? (·.1 == k)).map (·.2)`; the lemmas are stated on that term, so a
hypothesis or goal may be written with any of them.
-/
namespace Assoc
variable {α β : Type}

theorem find_eq_some {l : List (String × α)} {k : String} {x : α}
    (h : (l.find? (·.1 == k)).map (·.2) = some x) : l.find? (·.1 == k) = some (k, x) := by
  obtain ⟨kv, hf, rfl⟩ := Option.map_eq_some_iff.mp h
  have hk := List.find?_some hf
  rw [beq_iff_eq] at hk
  rw [hf, ← hk]

theorem find_mem {l : List (String × α)} {k : String} {x : α}
    (h : (l.find? (·.1 == k)).map (·.2) = some x) : (k, x) ∈ l :=
  List.mem_of_find?_eq_some (find_eq_some h)

theorem find_of_mem {l : List (String × α)} (hk : l.Pairwise (fun a b => a.1 ≠ b.1))
    {k : String} {x : α} (h : (k, x) ∈ l) : (l.find? (·.1 == k)).map (·.2) = some x := by
  induction l with
  | nil => simp at h
  | cons a as ih =>
    rw [List.pairwise_cons] at hk
    rcases List.mem_cons.mp h with rfl | h'
    · simp
    · have : (a.1 == k) = false := by simpa using hk.1 (k, x) h'
      simp only [List.find?_cons, this]
      exact ih hk.2 h'

theorem find_eq_none {l : List (String × α)} {k : String} :
    (l.find? (·.1 == k)).map (·.2) = none ↔ k ∉ l.map (·.1) := by
  rw [Option.map_eq_none_iff, List.find?_eq_none, List.mem_map]
  exact ⟨fun h ⟨x, hx, e⟩ => h x hx (by simpa using e), fun h x hx e => h ⟨x, hx, by simpa using e⟩⟩

theorem not_mem_keys {l : List (String × α)} {k : String} (h : l.all (fun kf => kf.1 != k) = true) : k ∉ l.map (·.1) :=
  fun hm => by obtain ⟨kf, hkf, e⟩ := List.mem_map.mp hm; exact bne_iff_ne.mp (List.all_eq_true.mp h kf hkf) e

theorem find_concat_new (l : List (String × α)) (k x : String) (v : α) (hk : k ∉ l.map (·.1)) :
    ((l ++ [(k, v)]).find? (·.1 == x)).map (·.2) = if x = k then some v else (l.find? (·.1 == x)).map (·.2) := by
  rw [List.find?_append]
  by_cases hx : x = k
  · subst hx
    have := Option.map_eq_none_iff.mp (find_eq_none.mpr hk)
    simp [this]
  · cases l.find? (·.1 == x) <;> simp [hx, Ne.symm hx]

theorem find_map (l : List (String × α)) (F : String × α → β) (k : String) :
    ((l.map fun kf => (kf.1, F kf)).find? (·.1 == k)).map (·.2) = (l.find? (·.1 == k)).map F := by
  rw [List.find?_map, Option.map_map]
  rfl

theorem find_map_some (l : List (String × α)) (F : String × α → β) {k : String} {x : α}
    (h : (l.find? (·.1 == k)).map (·.2) = some x) :
    ((l.map fun kf => (kf.1, F kf)).find? (·.1 == k)).map (·.2) = some (F (k, x)) := by
  rw [find_map, find_eq_some h, Option.map_some]

theorem find_filter_ne (e : List (String × α)) (k x : String) :
    ((e.filter (·.1 != k)).find? (·.1 == x)).map (·.2) = if x = k then none else (e.find? (·.1 == x)).map (·.2) := by
  rw [List.find?_filter]
  by_cases hx : x = k
  · simp [hx]
  · rw [if_neg hx]
    congr 2
    funext y
    by_cases hy : y.1 = x <;> simp [hy, hx]

theorem pairwise_of_keys {l : List (String × α)} {l' : List (String × β)} (h : l'.map (·.1) = l.map (·.1))
    (hl : l.Pairwise (fun a b => a.1 ≠ b.1)) : l'.Pairwise (fun a b => a.1 ≠ b.1) := by
  have : (l'.map (·.1)).Pairwise (· ≠ ·) := by rw [h, List.pairwise_map]; exact hl
  rwa [List.pairwise_map] at this

theorem pairwise_forall {R : α → α → Prop} (hs : ∀ a b, R a b → R b a) {l : List α}
    (hl : l.Pairwise R) : ∀ a ∈ l, ∀ b ∈ l, a ≠ b → R a b := by
  induction l with
  | nil => intro a ha; simp at ha
  | cons x xs ih =>
    rw [List.pairwise_cons] at hl
    intro a ha b hb hab
    rcases List.mem_cons.mp ha with rfl | ha' <;> rcases List.mem_cons.mp hb with rfl | hb'
    · exact absurd rfl hab
    · exact hl.1 b hb'
    · exact hs _ _ (hl.1 a ha')
    · exact ih hl.2 a ha' b hb' hab

end Assoc
