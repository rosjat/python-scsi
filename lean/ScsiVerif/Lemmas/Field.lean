import ScsiVerif.Lemmas.Conv
/-!
What `encodeMask` / `decodeMask` do to the buffer read as one big-endian number, for contiguous masks, and the algebra
of a field `(N >>> s) % 2 ^ w` of a number: a field of a field, a field after an XOR at the same or at another place.
-/
namespace Conv

theorem encodeMask_nat (buf : Bytes) (w s off v : Nat) (hw : 0 < w) (hb : BytesOK buf)
    (hoff : off + numBytes (mkMask w s) ≤ buf.length) (hv : v < 2^w) :
    ∃ r, encodeMask buf (mkMask w s) off v = .ok r ∧ BytesOK r ∧ r.length = buf.length ∧
      baToInt r = baToInt buf ^^^ (v <<< lsbPos buf.length (mkMask w s) off) := by
  have hlt : v <<< s < 2 ^ (8 * numBytes (mkMask w s)) := by
    rw [Nat.shiftLeft_eq]
    calc v * 2^s < 2^w * 2^s := Nat.mul_lt_mul_of_pos_right hv (Nat.two_pow_pos s)
      _ = 2^(w+s) := (Nat.pow_add 2 w s).symm
      _ ≤ 2^(8 * numBytes (mkMask w s)) := Nat.pow_le_pow_right (by decide) (by have := mkMask_fits w s hw; omega)
  unfold encodeMask
  simp only [mkMask_ne_zero w s hw, if_false, tz_mkMask w s hw]
  obtain ⟨r, hr, h1, h2, h3⟩ := baToInt_xorAt (intToBa (v <<< s) (numBytes (mkMask w s))) buf off hb (intToBa_ok _ _)
    (by rw [intToBa_length]; exact hoff)
  refine ⟨r, hr, h1, h2, ?_⟩
  rw [h3, baToInt_intToBa_of_lt _ _ hlt, intToBa_length, lsbPos, tz_mkMask w s hw, ← Nat.shiftLeft_add, Nat.add_comm]

theorem testBit_field (N p w i : Nat) :
    ((N >>> p) % 2^w).testBit i = (decide (i < w) && N.testBit (p + i)) := by
  simp [Nat.testBit_mod_two_pow, Nat.testBit_shiftRight]

/-- a field is determined by its `w` bits -/
theorem field_congr {N M p q w : Nat} (h : ∀ i < w, N.testBit (p + i) = M.testBit (q + i)) :
    (N >>> p) % 2 ^ w = (M >>> q) % 2 ^ w := by
  apply Nat.eq_of_testBit_eq
  intro i
  rw [testBit_field, testBit_field]
  by_cases hi : i < w
  · rw [h i hi]
  · simp [hi]

theorem field_of_field (N a k s w : Nat) (h : s + w ≤ k) :
    (((N >>> a) % 2 ^ k) >>> s) % 2 ^ w = (N >>> (a + s)) % 2 ^ w :=
  field_congr fun i hi => by rw [testBit_field, Nat.add_assoc]; simp [show s + i < k by omega]

theorem decodeMask_nat (data : Bytes) (w s off : Nat) (hw : 0 < w) (hb : BytesOK data)
    (hoff : off + numBytes (mkMask w s) ≤ data.length) :
    decodeMask data (mkMask w s) off = (baToInt data >>> lsbPos data.length (mkMask w s) off) % 2^w := by
  rw [decodeMask, lsbPos, tz_mkMask w s hw, mkMask_shiftRight, baToInt_slice data hb off _ hoff,
    Nat.and_two_pow_sub_one_eq_mod, field_of_field _ _ _ _ _ (mkMask_fits w s hw)]

theorem testBit_shiftLeft_lt {v w : Nat} (hv : v < 2^w) (p i : Nat) :
    (v <<< p).testBit i = (decide (p ≤ i ∧ i < p + w) && v.testBit (i - p)) := by
  rw [Nat.testBit_shiftLeft]
  by_cases hp : p ≤ i
  · by_cases hw : i < p + w
    · simp [hp, hw]
    · simp [hp, hw, testBit_of_lt hv (show w ≤ i - p by omega)]
  · simp [hp]

theorem testBit_encode (N v p w i : Nat) (hv : v < 2^w) :
    (N ^^^ (v <<< p)).testBit i =
      if p ≤ i ∧ i < p + w then (N.testBit i ^^ v.testBit (i - p)) else N.testBit i := by
  rw [Nat.testBit_xor, testBit_shiftLeft_lt hv]
  by_cases h : p ≤ i ∧ i < p + w <;> simp [h]

theorem field_xor (N v p w : Nat) (hv : v < 2 ^ w) :
    ((N ^^^ (v <<< p)) >>> p) % 2 ^ w = ((N >>> p) % 2 ^ w) ^^^ v := by
  rw [Nat.shiftRight_xor_distrib, Nat.shiftLeft_shiftRight, Nat.xor_mod_two_pow, Nat.mod_eq_of_lt hv]

theorem field_xor_other (N v p w p' w' : Nat) (hv : v < 2^w) (hd : p' + w' ≤ p ∨ p + w ≤ p') :
    ((N ^^^ (v <<< p)) >>> p') % 2^w' = (N >>> p') % 2^w' :=
  field_congr fun i hi => by rw [testBit_encode N v p w _ hv, if_neg (by omega)]

end Conv
