import ScsiVerif.Lemmas.Except
import ScsiVerif.Lemmas.Layout
import ScsiVerif.Lemmas.PDict
/-! Nested Python dictionaries (`PDict`) handed to `encode_dict`: what the converter sees of them (`convEntry`:
`toConv_spec` when it succeeds, `toConv_ok` that it does; C06b), and the fact the length-bookkeeping theorems of C05
rest on: a key written with `d[k] = n` before `encode_dict` is read back as `n` from the encoded structure. -/
namespace EncL
open Conv PVal

/-- an entry as `encode_dict` takes it: only int and byte-string values under keys of the table -/
def convEntry (lay : Layout) (kv : String × PV) : Option (String × Val) :=
  match layoutGet? lay kv.1, kv.2 with
  | some _, .int n => some (kv.1, .int n)
  | some _, .bytes b => some (kv.1, .bytes b)
  | _, _ => Option.none

theorem toConv_spec (lay : Layout) (d : PDict) (c : Dict) (h : toConv lay d = .ok c) :
    c = d.filterMap (convEntry lay) := by
  rw [Except.foldlM_append _ (convEntry lay) ?_ d [] c h, List.nil_append]
  intro acc kv acc' h
  unfold convEntry
  split at h
  · rename_i hl
    cases h
    simp [hl]
  · rename_i f hl
    split at h <;> cases h <;> rename_i hv <;> simp [hl, hv]

theorem convEntry_ofVal {lay : Layout} {k : String} {f : FieldSpec} (h : layoutGet? lay k = some f) (x : Val) :
    convEntry lay (k, ofVal x) = some (k, x) := by
  cases x <;> simp [convEntry, h, ofVal]

/-- `toConv` raises only at a key of the table whose value is neither int nor bytes -/
theorem toConv_ok (lay : Layout) (d : PDict) (h : ∀ kv ∈ d, layoutGet? lay kv.1 = none ∨ ∃ x, kv.2 = ofVal x) :
    toConv lay d = .ok (d.filterMap (convEntry lay)) := by
  rw [← List.nil_append (d.filterMap _)]
  refine Except.foldlM_append_ok _ (convEntry lay) d (fun acc kv hkv => ?_) []
  cases hl : layoutGet? lay kv.1 with
  | none => simp [convEntry, hl]
  | some f =>
    obtain ⟨x, hx⟩ := (h kv hkv).resolve_left (by simp [hl])
    cases x <;> simp [convEntry, hl, hx, ofVal]

theorem filterMap_eq_self {α : Type} {l : List α} {f : α → Option α} (h : ∀ x ∈ l, f x = some x) : l.filterMap f = l := by
  induction l with
  | nil => rfl
  | cons x xs ih => rw [List.filterMap_cons_some (h x (by simp)), ih fun y hy => h y (by simp [hy])]

theorem toConv_ofDict (lay : Layout) (c : Dict) (extra : PDict) (hc : ∀ k ∈ c.map (·.1), k ∈ lay.map (·.1))
    (hx : ∀ kv ∈ extra, layoutGet? lay kv.1 = none) : toConv lay (ofDict c ++ extra) = .ok c := by
  have e1 : ∀ kv ∈ c, convEntry lay (kv.1, ofVal kv.2) = some kv := fun kv hkv => by
    cases hl : layoutGet? lay kv.1 with
    | none => exact absurd (hc _ (List.mem_map_of_mem hkv)) (Assoc.find_eq_none.mp hl)
    | some f => exact convEntry_ofVal hl kv.2
  have e2 : ∀ kv ∈ extra, convEntry lay kv = none := fun kv hkv => by unfold convEntry; rw [hx kv hkv]
  rw [toConv_ok, List.filterMap_append, ofDict, List.filterMap_map, filterMap_eq_self (f := convEntry lay ∘ _) e1,
    List.filterMap_eq_nil_iff.mpr e2, List.append_nil]
  intro kv hkv
  rcases List.mem_append.mp hkv with hm | hm
  · obtain ⟨x, _, rfl⟩ := List.mem_map.mp hm
    exact .inr ⟨x.2, rfl⟩
  · exact .inl (hx kv hm)

/-- keys of a Python dictionary are unique -/
def Keys (d : PDict) : Prop := d.Pairwise (fun a b => a.1 ≠ b.1)

theorem convEntry_key {lay : Layout} {kv : String × PV} {kv' : String × Val} (h : convEntry lay kv = some kv') :
    kv'.1 = kv.1 := by
  unfold convEntry at h
  split at h <;> cases h <;> rfl

theorem conv_keys (lay : Layout) (d : PDict) (hk : Keys d) : KeysDistinct (d.filterMap (convEntry lay)) := by
  apply List.Pairwise.filterMap (convEntry lay) _ hk
  intro a a' hne b hb b' hb'
  rw [convEntry_key hb, convEntry_key hb']
  exact hne

theorem encodeFrom_eq {d : PDict} {lay : Layout} {buf r : Bytes} (he : encodeFrom d lay buf = .ok r) :
    encodeDict (d.filterMap (convEntry lay)) lay buf = .ok r := by
  obtain ⟨c, hc, he⟩ := Except.bind_eq_ok he
  rw [← toConv_spec lay d c hc]; exact he

theorem encodeFrom_length {lay : Layout} {L : Nat} (hwf : lay.wf L = true) {d : PDict}
    {r : Bytes} (he : encodeFrom d lay (zeros L) = .ok r)
    (hr : InRange lay (d.filterMap (convEntry lay))) : r.length = L :=
  (encodeDict_zeros_ok hwf hr (encodeFrom_eq he)).2.1

theorem field_of_get? {lay : Layout} {L : Nat} (hwf : lay.wf L = true) {d : PDict} (hk : Keys d)
    {k : String} {m off n : Nat} (hg : layoutGet? lay k = some (.bits m off)) (hd : d.get? k = some (.int n))
    {r : Bytes} (he : encodeFrom d lay (zeros L) = .ok r)
    (hr : InRange lay (d.filterMap (convEntry lay))) : decodeMask r m off = n :=
  decode_encodeDict lay L hwf _ hr (conv_keys lay _ hk) r (encodeFrom_eq he) k m off n hg
    (List.mem_filterMap.mpr ⟨(k, .int n), Assoc.find_mem hd, convEntry_ofVal hg (.int n)⟩)

/-- after `d[k] = n; encode_dict(d, table, bytearray(L))`, field `k` of the result holds `n` -/
theorem field_after_set {lay : Layout} {L : Nat} (hwf : lay.wf L = true) {d : PDict} (hk : Keys d)
    {k : String} {m off n : Nat} (hg : layoutGet? lay k = some (.bits m off))
    {r : Bytes} (he : encodeFrom (d.set k (.int n)) lay (zeros L) = .ok r)
    (hr : InRange lay ((d.set k (.int n)).filterMap (convEntry lay))) : decodeMask r m off = n :=
  field_of_get? hwf (set_keys d k (.int n) hk) hg (get?_set_self d k (.int n)) he hr

end EncL
