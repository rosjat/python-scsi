import ScsiVerif.Model.Command
import ScsiVerif.Lemmas.Except
/-! What a successful `Cmd.build` did, step by step (`Built`, and the buffers read off it), the guard that makes it
fail, and `eval` on the expression shapes the constructors use for lengths. -/
namespace Cmd
open Conv

structure Built (d : CmdDesc) (op : OpCode) (env : Env) (c : Command) : Prop where
  guards : evalGuards op env d.guards = .ok ()
  /-- `dataout` is `bytearray(dataoutLen)` unless the constructor assigns it … -/
  dataout_alloc : ∃ v n, eval op env d.dataoutLen = .ok v ∧ allocLen v = .ok n ∧
    (d.dataoutSet = none → c.dataout = .bytes (zeros n))
  /-- … and then it is the value assigned -/
  dataout_set : ∀ x, d.dataoutSet = some x → eval op env x = .ok c.dataout
  datain : ∃ v n, eval op env d.datainLen = .ok v ∧ allocLen v = .ok n ∧ c.datain = zeros n
  cdb : ∃ L dict, initCdbLen op.value = .ok L ∧ evalWiring op env d.wiring = .ok dict ∧
    encodeDict dict d.layout (zeros L) = .ok c.cdb

theorem build_ok {d : CmdDesc} {op : OpCode} {args : Env} {c : Command} (h : build d op args = .ok c) :
    ∃ env, bindArgs args d.params = .ok env ∧ Built d op env c := by
  unfold build at h
  obtain ⟨env, h1, h⟩ := Except.bind_eq_ok h
  obtain ⟨_, h2, h⟩ := Except.bind_eq_ok h
  obtain ⟨vo, h3, h⟩ := Except.bind_eq_ok h
  obtain ⟨no, h4, h⟩ := Except.bind_eq_ok h
  obtain ⟨vi, h5, h⟩ := Except.bind_eq_ok h
  obtain ⟨ni, h6, h⟩ := Except.bind_eq_ok h
  obtain ⟨L, h7, h⟩ := Except.bind_eq_ok h
  dsimp only at h
  -- the `match` on `d.dataoutSet` in the middle of the `do` block: on either branch a value `dout`, then the same steps
  obtain ⟨dout, h8, h⟩ : ∃ dout, (match d.dataoutSet with
      | none => Except.ok (PVal.bytes (zeros no))
      | some e => eval op env e) = .ok dout ∧ _ := by
    split at h
    · next hds => rw [hds]; exact Except.bind_eq_ok h
    · next e hds => rw [hds]; exact Except.bind_eq_ok h
  obtain ⟨dict, h9, h⟩ := Except.bind_eq_ok h
  obtain ⟨cdb, h10, h⟩ := Except.bind_eq_ok h
  cases h
  exact ⟨env, h1, h2, ⟨vo, no, h3, h4, fun hn => by rw [hn] at h8; exact (Except.ok.inj h8).symm⟩,
    fun x hx => by rw [hx] at h8; exact h8, ⟨vi, ni, h5, h6, rfl⟩, ⟨L, dict, h7, h9, h10⟩⟩

section
variable {d : CmdDesc} {op : OpCode} {env : Env} {c : Command}

theorem Built.of_env {args : Env} (h : build d op args = .ok c) (henv : bindArgs args d.params = .ok env) :
    Built d op env c := by
  obtain ⟨env', h1, hb⟩ := build_ok h
  rw [henv] at h1
  cases h1
  exact hb

/-- the buffers of a built command, from what the length expressions and the assigned expression evaluate to -/
theorem Built.datain_zeros (b : Built d op env c) {e : Expr} (he : d.datainLen = e) {v : PVal} {n : Nat}
    (hv : eval op env e = .ok v) (hn : allocLen v = .ok n) : c.datain = zeros n := by
  obtain ⟨v', n', hv', hn', hd⟩ := b.datain
  cases hv.symm.trans (he ▸ hv')
  cases hn.symm.trans hn'
  exact hd

theorem Built.dataout_empty (b : Built d op env c) (hs : d.dataoutSet = none) (ho : d.dataoutLen = .lit 0) :
    c.dataout = .bytes [] := by
  obtain ⟨v, n, hv, hn, hd⟩ := b.dataout_alloc
  rw [ho] at hv
  cases hv
  cases hn
  exact hd hs

theorem Built.dataout_eq (b : Built d op env c) {x : Expr} (hs : d.dataoutSet = some x) {v : PVal}
    (hv : eval op env x = .ok v) : c.dataout = v :=
  Except.ok.inj ((b.dataout_set x hs).symm.trans hv)

end

theorem build_guard_fires {d : CmdDesc} {op : OpCode} {args env : Env} {c : Expr} {e : PyErr}
    {rest : List (Expr × PyErr)} (hg : d.guards = (c, e) :: rest)
    (henv : bindArgs args d.params = .ok env) {v : PVal} (hc : eval op env c = .ok v) (ht : v.truthy = true) :
    build d op args = .error e := by
  unfold build
  simp only [bind, Except.bind, henv, hg, evalGuards, hc, ht, if_true]

@[simp] theorem asInt_int (n : Nat) : asInt (.int n) = some n := rfl

theorem eval_param {op : OpCode} {env : Env} {p : String} {pv : PVal} (h : env.get? p = some pv) :
    eval op env (.param p) = .ok pv := by
  simp [eval, h]

theorem eval_mul {op : OpCode} {env : Env} {a b : Expr} {x y : PVal} {m n : Nat} (ha : eval op env a = .ok x)
    (hb : eval op env b = .ok y) (hx : asInt x = some m) (hy : asInt y = some n) :
    eval op env (.mul a b) = .ok (.int (m * n)) := by
  simp [eval, ha, hb, bind, Except.bind, arith, hx, hy]

/-- a value that counts as the integer `n` is allocated as `n` bytes and written to a field as `n` -/
theorem allocLen_of_asInt {v : PVal} {n : Nat} (h : asInt v = some n) : allocLen v = .ok n := by
  cases v <;> simp [asInt] at h <;> simp [allocLen, h]

theorem toVal_of_asInt {v : PVal} {n : Nat} (h : asInt v = some n) : toVal v = .ok (.int n) := by
  cases v <;> simp [asInt] at h <;> simp [toVal, h]

end Cmd
