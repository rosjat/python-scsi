import ScsiVerif.Lemmas.Assoc
import ScsiVerif.Lemmas.Terms
/-! `encodeDict` over a well-formed layout: the buffer read as one number is XOR-ed with the number the dictionary
lays out (`Term`s at the layout's bit positions).  Then `decodeBits`: it returns every key of the table in order, and
the terms of what it returns are the buffer's own fields. -/
namespace Conv

theorem pairwiseB_iff {α : Type} (r : α → α → Bool) (l : List α) :
    pairwiseB r l = true ↔ l.Pairwise (fun a b => r a b = true) := by
  induction l with
  | nil => simp [pairwiseB]
  | cons x xs ih => simp [pairwiseB, ih, List.all_eq_true]

theorem pairwiseB_keys {α : Type} {l : List (String × α)} (h : pairwiseB (fun a b => a.1 != b.1) l = true) :
    l.Pairwise (fun a b => a.1 ≠ b.1) :=
  ((pairwiseB_iff _ _).mp h).imp (fun h => by simpa using h)

theorem bitsWF_spec {L m off : Nat} (h : bitsWF L m off = true) :
    m = mkMask (maskWidth m) (tz m) ∧ 0 < maskWidth m ∧ off + numBytes m ≤ L := by
  unfold bitsWF at h
  simp only [Bool.and_eq_true, beq_iff_eq, decide_eq_true_eq] at h
  exact ⟨h.1.1, h.1.2, h.2⟩

theorem decodeMask_wf {L m off : Nat} (h : bitsWF L m off = true) {data : Bytes} (hb : BytesOK data)
    (hl : data.length = L) : decodeMask data m off = (baToInt data >>> lsbPos L m off) % 2 ^ maskWidth m := by
  obtain ⟨hm, hw, hoff⟩ := bitsWF_spec h
  have := decodeMask_nat data (maskWidth m) (tz m) off hw hb (by rw [← hm, hl]; exact hoff)
  rwa [← hm, hl] at this

theorem encodeMask_wf {L m off : Nat} (h : bitsWF L m off = true) {buf : Bytes} (hb : BytesOK buf)
    (hl : buf.length = L) {v : Nat} (hv : v < 2 ^ maskWidth m) :
    ∃ r, encodeMask buf m off v = .ok r ∧ BytesOK r ∧ r.length = L ∧
      baToInt r = baToInt buf ^^^ (v <<< lsbPos L m off) := by
  obtain ⟨hm, hw, hoff⟩ := bitsWF_spec h
  have := encodeMask_nat buf (maskWidth m) (tz m) off v hw hb (by rw [← hm, hl]; exact hoff) hv
  rwa [← hm, hl] at this

theorem wf_entry {layout : Layout} {L : Nat} (hwf : layout.wf L = true) {k : String} {f : FieldSpec}
    (hg : layoutGet? layout k = some f) : ∃ m off, f = .bits m off ∧ bitsWF L m off = true := by
  unfold Layout.wf at hwf
  simp only [Bool.and_eq_true, List.all_eq_true] at hwf
  have := hwf.1.1 (k, f) (Assoc.find_mem hg)
  cases f with
  | blob u o l => simp [FieldSpec.range?] at this
  | bits m off =>
    refine ⟨m, off, rfl, ?_⟩
    simp only [FieldSpec.range?] at this
    split at this
    · assumption
    · simp at this

theorem wf_range {L m off : Nat} (h : bitsWF L m off = true) :
    (FieldSpec.bits m off).range? L = some (lsbPos L m off, maskWidth m) := by
  simp [FieldSpec.range?, h]

theorem wf_keys {layout : Layout} {L : Nat} (hwf : layout.wf L = true) :
    layout.Pairwise (fun a b => a.1 ≠ b.1) := by
  unfold Layout.wf at hwf
  simp only [Bool.and_eq_true] at hwf
  exact pairwiseB_keys hwf.1.2

theorem wf_get {layout : Layout} {L : Nat} (hwf : layout.wf L = true) {k : String} {f : FieldSpec}
    (hm : (k, f) ∈ layout) : layoutGet? layout k = some f :=
  Assoc.find_of_mem (wf_keys hwf) hm

theorem wf_bitsWF {layout : Layout} {L : Nat} (hwf : layout.wf L = true) {k : String} {m off : Nat}
    (hg : layoutGet? layout k = some (.bits m off)) : bitsWF L m off = true := by
  obtain ⟨_, _, he, hbw⟩ := wf_entry hwf hg
  cases he; exact hbw

theorem wf_disj {layout : Layout} {L : Nat} (hwf : layout.wf L = true) {k k' : String}
    {m off m' off' : Nat} (h : layoutGet? layout k = some (.bits m off))
    (h' : layoutGet? layout k' = some (.bits m' off')) (hne : k ≠ k') :
    lsbPos L m off + maskWidth m ≤ lsbPos L m' off' ∨ lsbPos L m' off' + maskWidth m' ≤ lsbPos L m off := by
  have hb := wf_bitsWF hwf h
  have hb' := wf_bitsWF hwf h'
  unfold Layout.wf at hwf
  simp only [Bool.and_eq_true] at hwf
  -- what the third conjunct checks of a pair of entries, as a symmetric proposition
  have hp : layout.Pairwise (fun a b => ∀ ra rb, a.2.range? L = some ra → b.2.range? L = some rb →
      ra.1 + ra.2 ≤ rb.1 ∨ rb.1 + rb.2 ≤ ra.1) :=
    ((pairwiseB_iff _ _).mp hwf.2).imp (by
      intro a b hab ra rb ha hb
      simpa [ha, hb, rangeDisj] using hab)
  exact Assoc.pairwise_forall (fun a b hab rb ra hb ha => (hab ra rb ha hb).symm) hp
    _ (Assoc.find_mem h) _ (Assoc.find_mem h') (fun e => hne (congrArg Prod.fst e)) _ _ (wf_range hb) (wf_range hb')

/-- what a key/value pair contributes to the buffer -/
def termOf (L : Nat) (layout : Layout) (kv : String × Val) : Option Term :=
  match layoutGet? layout kv.1, kv.2 with
  | some (.bits m off), .int n => some ⟨lsbPos L m off, maskWidth m, n⟩
  | _, _ => none

def termsOf (L : Nat) (layout : Layout) (d : Dict) : List Term := d.filterMap (termOf L layout)

def InRange (layout : Layout) (d : Dict) : Prop :=
  ∀ kv ∈ d, ∀ m off, layoutGet? layout kv.1 = some (.bits m off) →
    ∃ n, kv.2 = .int n ∧ n < 2^(maskWidth m)

def KeysDistinct (d : Dict) : Prop := d.Pairwise (fun a b => a.1 ≠ b.1)

theorem termOf_eq_some {L : Nat} {layout : Layout} {kv : String × Val} {t : Term} (h : termOf L layout kv = some t) :
    ∃ m off n, layoutGet? layout kv.1 = some (.bits m off) ∧ kv.2 = .int n ∧ t = ⟨lsbPos L m off, maskWidth m, n⟩ := by
  unfold termOf at h
  split at h
  · rename_i m off n hg hv
    cases h
    exact ⟨m, off, n, hg, hv, rfl⟩
  · cases h

theorem mem_termsOf {L : Nat} {layout : Layout} {d : Dict} {t : Term} :
    t ∈ termsOf L layout d ↔ ∃ k m off n, (k, Val.int n) ∈ d ∧ layoutGet? layout k = some (.bits m off) ∧
      t = ⟨lsbPos L m off, maskWidth m, n⟩ := by
  unfold termsOf
  rw [List.mem_filterMap]
  constructor
  · rintro ⟨kv, hkv, hk⟩
    obtain ⟨m, off, n, hg, hv, rfl⟩ := termOf_eq_some hk
    exact ⟨kv.1, m, off, n, by rw [← hv]; exact hkv, hg, rfl⟩
  · rintro ⟨k, m, off, n, hmem, hg, rfl⟩
    exact ⟨(k, .int n), hmem, by simp [termOf, hg]⟩

theorem encodeDict_terms (layout : Layout) (L : Nat) (hwf : layout.wf L = true) (d : Dict)
    (hr : InRange layout d) (buf : Bytes) (hb : BytesOK buf) (hl : buf.length = L) :
    ∃ r, encodeDict d layout buf = .ok r ∧ BytesOK r ∧ r.length = L ∧
      baToInt r = baToInt buf ^^^ xorAll (termsOf L layout d) := by
  induction d generalizing buf with
  | nil => exact ⟨buf, rfl, hb, hl, by simp [termsOf, xorAll]⟩
  | cons kv d ih =>
    have hr' : InRange layout d := fun x hx => hr x (by simp [hx])
    rw [encodeDict, List.foldlM_cons]
    cases hg : layoutGet? layout kv.1 with
    | none =>
      rw [show termsOf L layout (kv :: d) = termsOf L layout d by simp [termsOf, termOf, hg]]
      exact ih hr' buf hb hl
    | some f =>
      obtain ⟨m, off, rfl, hbw⟩ := wf_entry hwf hg
      obtain ⟨n, hn, hnlt⟩ := hr kv (by simp) m off hg
      obtain ⟨r1, e1, ok1, len1, nat1⟩ := encodeMask_wf hbw hb hl hnlt
      rw [show termsOf L layout (kv :: d) = ⟨lsbPos L m off, maskWidth m, n⟩ :: termsOf L layout d by
        simp [termsOf, termOf, hg, hn], xorAll, ← Nat.xor_assoc, Term.val, ← nat1]
      simp only [hn, encodeField, e1]
      exact ih hr' r1 ok1 len1

/-- `encode_dict` in closed form -/
theorem encodeDict_eq (layout : Layout) (L : Nat) (hwf : layout.wf L = true) (d : Dict)
    (hr : InRange layout d) (buf : Bytes) (hb : BytesOK buf) (hl : buf.length = L) :
    encodeDict d layout buf = .ok (intToBa (baToInt buf ^^^ xorAll (termsOf L layout d)) L) := by
  obtain ⟨r, h1, h2, h3, h4⟩ := encodeDict_terms layout L hwf d hr buf hb hl
  rw [h1, ← h4, ← h3, intToBa_baToInt r h2]

theorem encodeDict_zeros (layout : Layout) (L : Nat) (hwf : layout.wf L = true) (d : Dict)
    (hr : InRange layout d) :
    ∃ r, encodeDict d layout (zeros L) = .ok r ∧ BytesOK r ∧ r.length = L ∧
      baToInt r = xorAll (termsOf L layout d) := by
  have := encodeDict_terms layout L hwf d hr (zeros L) (zeros_ok L) (by simp [zeros])
  rwa [baToInt_zeros, Nat.zero_xor] at this

theorem encodeDict_zeros_ok {layout : Layout} {L : Nat} (hwf : layout.wf L = true) {d : Dict}
    (hr : InRange layout d) {r : Bytes} (he : encodeDict d layout (zeros L) = .ok r) :
    BytesOK r ∧ r.length = L ∧ baToInt r = xorAll (termsOf L layout d) := by
  obtain ⟨r', e, h⟩ := encodeDict_zeros layout L hwf d hr
  rw [he] at e
  cases e
  exact h

theorem termsOf_ok (layout : Layout) (L : Nat) (d : Dict) (hr : InRange layout d) :
    ∀ t ∈ termsOf L layout d, t.ok := by
  intro t ht
  obtain ⟨k, m, off, n, hmem, hg, rfl⟩ := mem_termsOf.mp ht
  obtain ⟨n', hn', hlt⟩ := hr _ hmem m off hg
  cases hn'
  exact hlt

theorem termsOf_disj (layout : Layout) (L : Nat) (hwf : layout.wf L = true) (d : Dict)
    (hk : KeysDistinct d) : (termsOf L layout d).Pairwise Term.disj := by
  apply List.Pairwise.filterMap (termOf L layout) _ hk
  intro a a' hne b hb b' hb'
  obtain ⟨m, off, n, hg, _, rfl⟩ := termOf_eq_some hb
  obtain ⟨m', off', n', hg', _, rfl⟩ := termOf_eq_some hb'
  exact wf_disj hwf hg hg' hne

theorem encodeDict_field (layout : Layout) (L : Nat) (hwf : layout.wf L = true) (d : Dict)
    (hr : InRange layout d) (hk : KeysDistinct d) {r : Bytes} (he : encodeDict d layout (zeros L) = .ok r)
    {k : String} {m off n : Nat} (hg : layoutGet? layout k = some (.bits m off)) (hin : (k, Val.int n) ∈ d) :
    (baToInt r >>> lsbPos L m off) % 2 ^ maskWidth m = n := by
  rw [(encodeDict_zeros_ok hwf hr he).2.2]
  exact xorAll_field _ (termsOf_ok layout L d hr) (termsOf_disj layout L hwf d hk)
    ⟨lsbPos L m off, maskWidth m, n⟩ (mem_termsOf.mpr ⟨k, m, off, n, hin, hg, rfl⟩)

theorem decode_encodeDict (layout : Layout) (L : Nat) (hwf : layout.wf L = true) (d : Dict)
    (hr : InRange layout d) (hk : KeysDistinct d) (r : Bytes)
    (he : encodeDict d layout (zeros L) = .ok r)
    (k : String) (m off n : Nat) (hg : layoutGet? layout k = some (.bits m off))
    (hin : (k, Val.int n) ∈ d) : decodeMask r m off = n := by
  obtain ⟨ok, len, _⟩ := encodeDict_zeros_ok hwf hr he
  rw [decodeMask_wf (wf_bitsWF hwf hg) ok len, encodeDict_field layout L hwf d hr hk he hg hin]

theorem decode_encodeDict_absent (layout : Layout) (L : Nat) (hwf : layout.wf L = true) (d : Dict)
    (hr : InRange layout d) (r : Bytes) (he : encodeDict d layout (zeros L) = .ok r)
    (k : String) (m off : Nat) (hg : layoutGet? layout k = some (.bits m off))
    (hout : ∀ kv ∈ d, kv.1 ≠ k) : decodeMask r m off = 0 := by
  obtain ⟨ok, len, nat⟩ := encodeDict_zeros_ok hwf hr he
  rw [decodeMask_wf (wf_bitsWF hwf hg) ok len, nat]
  apply xorAll_field_other _ (termsOf_ok layout L d hr)
  intro t ht
  obtain ⟨k', m', off', n', hmem, hg', rfl⟩ := mem_termsOf.mp ht
  exact wf_disj hwf hg' hg (hout _ hmem)

theorem encodeDict_bits_covered (layout : Layout) (L : Nat) (hwf : layout.wf L = true) (d : Dict)
    (hr : InRange layout d) (r : Bytes) (he : encodeDict d layout (zeros L) = .ok r) (i : Nat)
    (hi : (baToInt r).testBit i = true) :
    ∃ kv ∈ d, ∃ m off, layoutGet? layout kv.1 = some (.bits m off) ∧
      lsbPos L m off ≤ i ∧ i < lsbPos L m off + maskWidth m := by
  obtain ⟨ok, len, nat⟩ := encodeDict_zeros_ok hwf hr he
  rw [nat] at hi
  apply Classical.byContradiction
  intro hno
  rw [xorAll_outside _ (termsOf_ok layout L d hr) i] at hi
  · cases hi
  · intro t ht hti
    obtain ⟨k, m, off, n, hmem, hg, rfl⟩ := mem_termsOf.mp ht
    exact hno ⟨_, hmem, m, off, hg, hti⟩

theorem dictSet_absent (d : Dict) (k : String) (v : Val) (h : ∀ kv ∈ d, kv.1 ≠ k) :
    dictSet d k v = d ++ [(k, v)] := by
  unfold dictSet
  have : d.any (·.1 == k) = false := by
    rw [List.any_eq_false]
    intro kv hkv
    simpa using h kv hkv
  simp [this]

def decodedOf (data : Bytes) (layout : Layout) : Dict := layout.map (fun kf => (kf.1, decodeField data kf.2))

theorem decodedOf_keys (data : Bytes) (layout : Layout) : (decodedOf data layout).map (·.1) = layout.map (·.1) := by
  simp [decodedOf, List.map_map, Function.comp_def]

theorem decodeStep_ok {data : Bytes} {acc : Dict} {kf : String × FieldSpec} (h : ∀ off, kf.2 ≠ .bits 0 off) :
    decodeStep data acc kf = .ok (dictSet acc kf.1 (decodeField data kf.2)) := by
  unfold decodeStep
  split
  · rename_i off hf
    exact absurd hf (h off)
  · rfl

theorem decodeBits_go (data : Bytes) (layout : Layout) (acc : Dict)
    (hnz : ∀ kf ∈ layout, ∀ off, kf.2 ≠ .bits 0 off)
    (hkeys : layout.Pairwise (fun a b => a.1 ≠ b.1))
    (hacc : ∀ kv ∈ acc, ∀ kf ∈ layout, kv.1 ≠ kf.1) :
    decodeBits data layout acc = .ok (acc ++ decodedOf data layout) := by
  induction layout generalizing acc with
  | nil => simp [decodeBits, decodedOf, pure, Except.pure]
  | cons kf rest ih =>
    rw [List.pairwise_cons] at hkeys
    rw [decodeBits, List.foldlM_cons, decodeStep_ok (hnz kf (by simp)),
      dictSet_absent _ _ _ (fun kv hkv => hacc kv hkv kf (by simp))]
    refine (ih _ (fun x hx => hnz x (by simp [hx])) hkeys.2 ?_).trans (by simp [decodedOf])
    intro kv hkv x hx
    rcases List.mem_append.mp hkv with h | h
    · exact hacc kv h x (by simp [hx])
    · rw [List.mem_singleton.mp h]
      exact hkeys.1 x hx

theorem decodeBits_wf (data : Bytes) (layout : Layout) (L : Nat) (hwf : layout.wf L = true) :
    decodeBits data layout [] = .ok (decodedOf data layout) := by
  rw [decodeBits_go data layout [] ?_ (wf_keys hwf) (by intro kv hkv; simp at hkv), List.nil_append]
  intro kf hkf off he
  have hg : layoutGet? layout kf.1 = some (.bits 0 off) := he ▸ wf_get hwf (k := kf.1) (f := kf.2) hkf
  obtain ⟨hmk, hw, _⟩ := bitsWF_spec (wf_bitsWF hwf hg)
  exact mkMask_ne_zero _ _ hw hmk.symm

theorem dictGet?_decodedOf (data : Bytes) (layout : Layout) (k : String) (f : FieldSpec)
    (hg : layoutGet? layout k = some f) : dictGet? (decodedOf data layout) k = some (decodeField data f) :=
  Assoc.find_map_some layout (fun kf => decodeField data kf.2) hg

theorem mem_termsOf_decodedOf {data : Bytes} {layout : Layout} {L : Nat} (hwf : layout.wf L = true)
    (hb : BytesOK data) (hl : data.length = L) {t : Term} :
    t ∈ termsOf L layout (decodedOf data layout) ↔ ∃ k m off, (k, FieldSpec.bits m off) ∈ layout ∧
      t = ⟨lsbPos L m off, maskWidth m, (baToInt data >>> lsbPos L m off) % 2 ^ maskWidth m⟩ := by
  rw [mem_termsOf]
  constructor
  · rintro ⟨k, m, off, n, hmem, hg, rfl⟩
    -- the keys of `decodedOf` are the layout's, distinct: an entry is what looking its key up returns
    have hkd := Assoc.pairwise_of_keys (decodedOf_keys data layout) (wf_keys hwf)
    have hv := (Assoc.find_of_mem hkd hmem).symm.trans (dictGet?_decodedOf data layout k _ hg)
    rw [decodeField, decodeMask_wf (wf_bitsWF hwf hg) hb hl] at hv
    exact ⟨k, m, off, Assoc.find_mem hg, by rw [Val.int.inj (Option.some.inj hv)]⟩
  · rintro ⟨k, m, off, hmem, rfl⟩
    have hg := wf_get hwf hmem
    exact ⟨k, m, off, _, List.mem_map.mpr ⟨_, hmem, by rw [decodeField, decodeMask_wf (wf_bitsWF hwf hg) hb hl]⟩, hg, rfl⟩

end Conv
