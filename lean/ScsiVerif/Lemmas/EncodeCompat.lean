import ScsiVerif.Lemmas.DataCompat
/-! Encode-side soundness of `DataCompat.compatible`: `encode_dict` into a zeroed buffer with a
compatible table produces exactly the standard's structure holding the supplied values. -/
namespace DataCompat
open Conv Std

def valsFor (lay : Layout) (d : Dict) : Vals := fun k =>
  match layoutGet? lay k, dictGet? d k with
  | some _, some (.int n) => n
  | _, _ => 0

theorem valsFor_ne_zero {lay : Layout} {d : Dict} {k : String} (h : valsFor lay d k ≠ 0) :
    ∃ f, layoutGet? lay k = some f ∧ (k, Val.int (valsFor lay d k)) ∈ d := by
  unfold valsFor at h ⊢
  split at h
  · rename_i f n hl hd
    exact ⟨f, hl, Assoc.find_mem hd⟩
  · exact absurd rfl h

theorem compat_entry {lay : Layout} {fs : List DField} {L : Nat} (hc : compatible lay fs L = true)
    {k : String} {m off : Nat} (h : layoutGet? lay k = some (.bits m off)) :
    ∃ g ∈ fs, g.key = k ∧ lsbPos L m off = g.lsb L ∧ maskWidth m = g.width := by
  obtain ⟨g, hg, hgk, hm⟩ := (compatible_spec hc).2.2 _ (Assoc.find_mem h)
  simp only [entryMatches, Bool.and_eq_true, beq_iff_eq] at hm
  exact ⟨g, hg, hgk, hm.1.2, hm.2⟩

/-- the table's entry under the key of a standard field sits on that field: the standard's keys are distinct -/
theorem compat_std {lay : Layout} {fs : List DField} {L : Nat} (hc : compatible lay fs L = true) {g : DField} (hg : g ∈ fs)
    {m off : Nat} (h : layoutGet? lay g.key = some (.bits m off)) : lsbPos L m off = g.lsb L ∧ maskWidth m = g.width := by
  obtain ⟨g', hg', hk, hpos⟩ := compat_entry hc h
  by_cases e : g' = g
  · exact e ▸ hpos
  · exact absurd hk
      (Assoc.pairwise_forall (fun _ _ h e => h e.symm) (formatOK_spec (compatible_format hc)).2.1 g' hg' g hg e)

/-- `encode_dict(d, table, bytearray(L))` is the standard's structure for the values `d` supplies — each at the
position the standard assigns, every other bit zero. -/
theorem encode_sound (lay : Layout) (fs : List DField) (L : Nat) (hwf : lay.wf L = true)
    (hc : compatible lay fs L = true) (d : Dict) (hr : InRange lay d) (hk : KeysDistinct d) :
    encodeDict d lay (zeros L) = .ok (encodeD L fs (valsFor lay d)) := by
  have hf := compatible_format hc
  have hsup : ∀ g ∈ fs, valsFor lay d g.key ≠ 0 → ∃ m off, layoutGet? lay g.key = some (.bits m off) ∧
      (g.key, Val.int (valsFor lay d g.key)) ∈ d ∧ lsbPos L m off = g.lsb L ∧ maskWidth m = g.width := by
    intro g hg hnz
    obtain ⟨f, hl, hmem⟩ := valsFor_ne_zero hnz
    obtain ⟨m, off, rfl, _⟩ := wf_entry hwf hl
    exact ⟨m, off, hl, hmem, compat_std hc hg hl⟩
  have hrange : InRangeD fs (valsFor lay d) := by
    intro g hg
    by_cases hz : valsFor lay d g.key = 0
    · rw [hz]; exact Nat.two_pow_pos _
    · obtain ⟨m, off, hl, hmem, _, hw⟩ := hsup g hg hz
      obtain ⟨n, hn, hlt⟩ := hr _ hmem m off hl
      cases hn; rw [← hw]; exact hlt
  rw [encodeDict_eq lay L hwf d hr (zeros L) (zeros_ok L) (by simp [zeros]), baToInt_zeros, Nat.zero_xor,
    encodeD_eq hf hrange]
  congr 2
  -- both numbers are laid out by the same non-zero terms
  apply xorAll_congr (termsOf_ok lay L d hr) (termsOf_disj lay L hwf d hk) (termsD_ok hrange) (termsD_disj hf _)
  intro t hnz
  rw [mem_termsOf]
  constructor
  · rintro ⟨k, m, off, n, hmem, hg, rfl⟩
    obtain ⟨g, hgm, rfl, hlsb, hw⟩ := compat_entry hc hg
    refine List.mem_map.mpr ⟨g, hgm, ?_⟩
    simp only [valsFor, hg, Assoc.find_of_mem hk hmem, dictGet?, hlsb, hw]
  · intro ht
    obtain ⟨g, hg, rfl⟩ := List.mem_map.mp ht
    obtain ⟨m, off, hl, hmem, hlsb, hw⟩ := hsup g hg hnz
    exact ⟨g.key, m, off, _, hmem, hl, by rw [hlsb, hw]⟩

end DataCompat
