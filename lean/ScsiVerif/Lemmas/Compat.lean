import ScsiVerif.Model.Compat
import ScsiVerif.Lemmas.Layout
import ScsiVerif.Lemmas.Build
/-! Soundness of `Compat.compatible`: a compatible constructor builds the standard's CDB. -/
namespace Compat
open Conv Cmd Std

theorem beValue_eq_baToInt (l : List Nat) : beValue l = baToInt l := by
  induction l with
  | nil => rfl
  | cons b bs ih =>
    simp only [beValue, baToInt, ih, Nat.shiftLeft_eq]
    congr 1
    rw [Nat.mul_comm bs.length 8, Nat.pow_mul]

theorem fieldOf_eq (L : Nat) (g : Field) (cdb : Bytes) :
    fieldOf L g cdb = (baToInt cdb >>> g.lsb L) % 2 ^ g.width := by
  unfold fieldOf
  rw [beValue_eq_baToInt, Nat.shiftRight_eq_div_pow]

/-- the dictionary handed to `encode_dict` holds, under the wiring's keys, what the wiring's expressions evaluate to -/
theorem mem_evalWiring {op : OpCode} {env : Env} {w : List (String × Expr)} {dict : Dict}
    (h : evalWiring op env w = .ok dict) :
    dict.map (·.1) = w.map (·.1) ∧
    ∀ k v, (k, v) ∈ dict ↔ ∃ e pv, (k, e) ∈ w ∧ eval op env e = .ok pv ∧ toVal pv = .ok v := by
  induction w generalizing dict with
  | nil =>
    cases h
    simp
  | cons ke rest ih =>
    obtain ⟨k0, e0⟩ := ke
    simp only [evalWiring] at h
    obtain ⟨pv, he, h⟩ := Except.bind_eq_ok h
    obtain ⟨v', hv, h⟩ := Except.bind_eq_ok h
    obtain ⟨r, hr, h⟩ := Except.bind_eq_ok h
    cases h
    obtain ⟨i1, i2⟩ := ih hr
    refine ⟨by simp [i1], fun k v => ?_⟩
    simp only [List.mem_cons, i2, Prod.mk.injEq]
    constructor
    · rintro (⟨rfl, rfl⟩ | ⟨e, pv', hm, h1, h2⟩)
      · exact ⟨e0, pv, .inl ⟨rfl, rfl⟩, he, hv⟩
      · exact ⟨e, pv', .inr hm, h1, h2⟩
    · rintro ⟨e, pv', (⟨rfl, rfl⟩ | hm), h1, h2⟩
      · cases he.symm.trans h1
        exact .inl ⟨rfl, Except.ok.inj (h2.symm.trans hv)⟩
      · exact .inr ⟨e, pv', hm, h1, h2⟩

theorem arith_ok {f : Nat → Nat → Nat} {a b : PVal} {x y : Nat} (ha : asInt a = some x) (hb : asInt b = some y) :
    arith f a b = .ok (.int (f x y)) := by
  simp [arith, ha, hb]

/-- the translator's expression for `scsi_to_ata_lba_convert` of an integer argument is SAT's byte order of it -/
theorem eval_ata12 {op : OpCode} {env : Env} {p : String} {x : PVal} {n : Nat} (hp : env.get? p = some x)
    (ha : asInt x = some n) : eval op env (ata12Expr p) = .ok (.int (ataLba12 n)) := by
  simp only [ata12Expr, eval, hp, bind, Except.bind, arith, ha, asInt_int]
  refine congrArg (Except.ok ∘ PVal.int) ?_
  simp only [ataLba12, beValue, and_255, Nat.shiftLeft_eq, Nat.shiftRight_eq_div_pow, List.length_cons, List.length_nil,
    Nat.reducePow, Nat.reduceAdd, Nat.mul_one]
  -- the same three bytes, summed in another order
  ac_rfl

theorem eval_ata16 {op : OpCode} {env : Env} {p : String} {x : PVal} {n : Nat} (hp : env.get? p = some x)
    (ha : asInt x = some n) : eval op env (ata16Expr p) = .ok (.int (ataLba16 n)) := by
  simp only [ata16Expr, eval, hp, bind, Except.bind, arith, ha, asInt_int]
  refine congrArg (Except.ok ∘ PVal.int) ?_
  simp only [ataLba16, beValue, and_255, Nat.shiftLeft_eq, Nat.shiftRight_eq_div_pow, List.length_cons, List.length_nil,
    Nat.reducePow, Nat.reduceAdd, Nat.mul_one]
  ac_rfl

/-- a wiring expression that matches a standard field's source evaluates to the value that source prescribes -/
theorem eval_src {d : CmdDesc} {op : OpCode} {env : Env} {dataout : PVal} {e : Expr} {src : Src}
    (hm : srcMatches d e src = true) (hdo : ∀ x, d.dataoutSet = some x → eval op env x = .ok dataout)
    {v : Nat} (hv : srcVal op env dataout src = some v) : ∃ pv, eval op env e = .ok pv ∧ toVal pv = .ok (.int v) := by
  cases src <;> simp only [srcMatches, srcVal, beq_iff_eq] at hm hv
  case paramListLen =>
    split at hm
    · rename_i x
      split at hv
      · rename_i b
        cases hv
        exact ⟨.int b.length, by simp only [eval, hdo x (beq_iff_eq.mp hm), bind, Except.bind], rfl⟩
      · cases hv
    · cases hm
  all_goals subst hm
  case arg p =>
    obtain ⟨x, hp, ha⟩ := Option.bind_eq_some_iff.mp hv
    exact ⟨x, eval_param hp, toVal_of_asInt ha⟩
  case opcode =>
    cases hv
    exact ⟨_, rfl, rfl⟩
  case sa n t => exact ⟨.int v, by simp only [eval, hv], rfl⟩
  case const n =>
    cases hv
    exact ⟨_, rfl, rfl⟩
  case ataLba12 p =>
    obtain ⟨n, hn, rfl⟩ := Option.map_eq_some_iff.mp hv
    obtain ⟨x, hp, ha⟩ := Option.bind_eq_some_iff.mp hn
    exact ⟨_, eval_ata12 hp ha, rfl⟩
  case ataLba16 p =>
    obtain ⟨n, hn, rfl⟩ := Option.map_eq_some_iff.mp hv
    obtain ⟨x, hp, ha⟩ := Option.bind_eq_some_iff.mp hn
    exact ⟨_, eval_ata16 hp ha, rfl⟩

theorem entryCompat_spec {d : CmdDesc} {L : Nat} {ke : String × Expr} {g : Field} (h : entryCompat d L ke g = true) :
    srcMatches d ke.2 g.src = true ∧
    ∃ m off, layoutGet? d.layout ke.1 = some (.bits m off) ∧ lsbPos L m off = g.lsb L ∧ maskWidth m = g.width := by
  unfold entryCompat fieldCompat at h
  split at h
  · rename_i m off hg
    simp only [Bool.and_eq_true, beq_iff_eq] at h
    exact ⟨h.2, m, off, hg, h.1.1.2, h.1.2⟩
  · simp at h

/-- the arguments fit the standard's field widths (the domain of C01) -/
def ArgsInRange (s : Cdb) (op : OpCode) (env : Env) (dataout : PVal) : Prop :=
  ∀ g ∈ s.fields, ∃ v, srcVal op env dataout g.src = some v ∧ v < 2 ^ g.width

/-- what a compatible constructor hands to `encode_dict` -/
theorem compatible_dict {d : CmdDesc} {s : Cdb} {L : Nat} (hc : compatible d s L = true)
    {op : OpCode} (hL : initCdbLen op.value = .ok L) {env : Env} {c : Command} (b : Built d op env c)
    (hr : ArgsInRange s op env c.dataout) :
    ∃ dict, d.layout.wf L = true ∧ encodeDict dict d.layout (zeros L) = .ok c.cdb ∧ KeysDistinct dict ∧
      InRange d.layout dict ∧
      (∀ kv ∈ dict, ∀ m off, layoutGet? d.layout kv.1 = some (.bits m off) → ∃ g ∈ s.fields,
        lsbPos L m off = g.lsb L ∧ maskWidth m = g.width) ∧
      (∀ g ∈ s.fields, ∀ v, srcVal op env c.dataout g.src = some v → ∃ k m off,
        layoutGet? d.layout k = some (.bits m off) ∧ lsbPos L m off = g.lsb L ∧ maskWidth m = g.width ∧
        (k, Val.int v) ∈ dict) := by
  have hdo := b.dataout_set
  obtain ⟨L', dict, h2, hw, henc⟩ := b.cdb
  rw [hL] at h2; cases h2
  unfold compatible at hc
  simp only [Bool.and_eq_true, List.all_eq_true, List.any_eq_true] at hc
  obtain ⟨⟨⟨hwf, hkeys⟩, hall⟩, hstd⟩ := hc
  obtain ⟨hdk, hmem⟩ := mem_evalWiring hw
  have hfrom : ∀ kv ∈ dict, ∀ m off, layoutGet? d.layout kv.1 = some (.bits m off) → ∃ g ∈ s.fields, ∃ v,
      lsbPos L m off = g.lsb L ∧ maskWidth m = g.width ∧ kv.2 = .int v ∧ v < 2 ^ g.width := by
    intro kv hkv m off hg
    obtain ⟨e, pv, hm, he, htv⟩ := (hmem kv.1 kv.2).mp hkv
    obtain ⟨g, hg_mem, hcomp⟩ := hall (kv.1, e) hm
    obtain ⟨hsrc, m', off', hg', hlsb, hwd⟩ := entryCompat_spec hcomp
    rw [hg] at hg'; cases hg'
    obtain ⟨v, hv, hlt⟩ := hr g hg_mem
    obtain ⟨pv', he', htv'⟩ := eval_src hsrc hdo hv
    cases he.symm.trans he'
    exact ⟨g, hg_mem, v, hlsb, hwd, Except.ok.inj (htv.symm.trans htv'), hlt⟩
  refine ⟨dict, hwf, henc, ?_, ?_, ?_, ?_⟩
  · exact Assoc.pairwise_of_keys hdk (pairwiseB_keys hkeys)
  · intro kv hkv m off hg
    obtain ⟨g, _, v, _, hwd, hv, hlt⟩ := hfrom kv hkv m off hg
    exact ⟨v, hv, hwd ▸ hlt⟩
  · intro kv hkv m off hg
    obtain ⟨g, hg', _, hlsb, hwd, _, _⟩ := hfrom kv hkv m off hg
    exact ⟨g, hg', hlsb, hwd⟩
  · intro g hg v hv
    obtain ⟨ke, hke, hcomp⟩ := hstd g hg
    obtain ⟨hsrc, m, off, hget, hlsb, hwd⟩ := entryCompat_spec hcomp
    obtain ⟨pv, he, htv⟩ := eval_src hsrc hdo hv
    exact ⟨ke.1, m, off, hget, hlsb, hwd, (hmem _ _).mpr ⟨ke.2, pv, hke, he, htv⟩⟩

/-- **Main soundness theorem**: for a compatible constructor/standard pair, whenever the
constructor succeeds on in-range arguments, the CDB has `L` bytes, a conformant target reads
every standard field as the value the caller supplied, and every other bit is zero. -/
theorem compatible_sound (d : CmdDesc) (s : Cdb) (L : Nat) (hc : compatible d s L = true)
    (op : OpCode) (hL : initCdbLen op.value = .ok L) (args : Env) (c : Command)
    (hb : build d op args = .ok c) (env : Env) (henv : bindArgs args d.params = .ok env)
    (hr : ArgsInRange s op env c.dataout) :
    c.cdb.length = L ∧
    (∀ g ∈ s.fields, ∀ v, srcVal op env c.dataout g.src = some v → fieldOf L g c.cdb = v) ∧
    (∀ i, (baToInt c.cdb).testBit i = true → ∃ g ∈ s.fields, g.lsb L ≤ i ∧ i < g.lsb L + g.width) := by
  obtain ⟨dict, hwf, henc, hkd, hin, hfrom, hto⟩ := compatible_dict hc hL (.of_env hb henv) hr
  refine ⟨(encodeDict_zeros_ok hwf hin henc).2.1, ?_, ?_⟩
  · intro g hg v hv
    obtain ⟨k, m, off, hget, hlsb, hwd, hmem⟩ := hto g hg v hv
    rw [fieldOf_eq, ← hlsb, ← hwd]
    exact encodeDict_field d.layout L hwf dict hin hkd henc hget hmem
  · intro i hi
    obtain ⟨kv, hkv, m, off, hget, hlo, hhi⟩ := encodeDict_bits_covered d.layout L hwf dict hin c.cdb henc i hi
    obtain ⟨g, hg, hlsb, hwd⟩ := hfrom kv hkv m off hget
    exact ⟨g, hg, hlsb ▸ hlo, hlsb ▸ hwd ▸ hhi⟩

theorem compatible_bytesOK {d : CmdDesc} {s : Cdb} {L : Nat} (hc : compatible d s L = true)
    {op : OpCode} (hL : initCdbLen op.value = .ok L) {env : Env} {c : Command} (b : Built d op env c)
    (hr : ArgsInRange s op env c.dataout) : BytesOK c.cdb := by
  obtain ⟨dict, hwf, henc, _, hin, _, _⟩ := compatible_dict hc hL b hr
  exact (encodeDict_zeros_ok hwf hin henc).1

theorem setOK_spec {s : Cdb} {set : List (String × OpCode)} {op : OpCode} (h : setOK s set = true)
    (hop : findOp set s.opName = some op) :
    op.value = s.opcode ∧ saOK s op = true ∧ ∃ L, initCdbLen op.value = .ok L ∧ samLen s.opcode = some L := by
  simp only [setOK, hop, Bool.and_eq_true, beq_iff_eq] at h
  obtain ⟨⟨hval, hsa⟩, hlen⟩ := h
  refine ⟨hval, hsa, ?_⟩
  split at hlen
  · rename_i L L' hi hL
    exact ⟨L, hi, by rw [hL, beq_iff_eq.mp hlen]⟩
  · cases hlen

end Compat
