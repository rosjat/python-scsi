import ScsiVerif.Lemmas.Except
import ScsiVerif.Lemmas.DataCompat
import ScsiVerif.Lemmas.PDict
import ScsiVerif.Model.Formats.Decode
import ScsiVerif.Std.DataIn
/-!
Lemmas for the response-decoder theorems (C04, C06b–c).  A field of a block that a decoder reads by its own means
(`data[a:b]`, `data[i]` with shifts and masks) is named by its key, and that the table or block has it there is a decided
fact (`isBits`, `byteField`), so a proof spells out no mask, offset or bit position.  Buffers are concatenations in the
right-nested form `a ++ (b ++ (c ++ …))` that `simp only [List.append_assoc]` produces from the oracle's encoders.
A response body is a concatenation of items: `loop_std` and `chunked_std` reduce a decoder's loop over it to the
statement of one iteration.
-/
namespace DecL
open Conv PVal Std DataCompat

/-- what the library reports for a block decoded with table `lay`: every key of the table with the
device's value, in table order -/
def reported (lay : Layout) (v : Vals) : PDict := ofDict (expected lay v)

/-- so that the witnesses of the non-vacuity examples are checked by evaluation -/
instance (fs : List DField) (v : Vals) : Decidable (InRangeD fs v) :=
  inferInstanceAs (Decidable (∀ g ∈ fs, v g.key < 2 ^ g.width))

theorem reported_keys (lay : Layout) (v : Vals) : (reported lay v).map (·.1) = lay.map (·.1) := by
  rw [reported, ofDict_keys, expected_keys]

theorem reported_append (A B : Layout) (v : Vals) : reported (A ++ B) v = reported A v ++ reported B v := by
  simp [reported, expected, ofDict]

theorem reported_pairwise {lay : Layout} (hk : lay.Pairwise (fun a b => a.1 ≠ b.1)) (v : Vals) :
    (reported lay v).Pairwise (fun a b => a.1 ≠ b.1) :=
  Assoc.pairwise_of_keys (reported_keys lay v) hk

theorem set_reported (lay : Layout) (v : Vals) (k : String) (x : PV) (h : k ∉ lay.map (·.1)) :
    (reported lay v).set k x = reported lay v ++ [(k, x)] :=
  set_new _ k x (by rwa [reported_keys])

theorem fresh_del_reported (lay : Layout) (v : Vals) (k k' : String) (h : k ∉ lay.map (·.1)) :
    k ∉ ((reported lay v).del k').map (·.1) :=
  fun hm => h (reported_keys lay v ▸ keys_del _ k k' hm)

theorem get?_ofDict_map (lay : Layout) (F : String × FieldSpec → Val) (k : String) (f : FieldSpec)
    (h : layoutGet? lay k = some f) :
    (ofDict (lay.map (fun kf => (kf.1, F kf)))).get? k = some (ofVal (F (k, f))) := by
  rw [ofDict, List.map_map]
  exact Assoc.find_map_some lay (fun kf => ofVal (F kf)) h

def isBits (lay : Layout) (k : String) : Bool :=
  match layoutGet? lay k with
  | some (.bits _ _) => true
  | _ => false

theorem get?_reported (lay : Layout) (v : Vals) (k : String) (h : isBits lay k = true) :
    (reported lay v).get? k = some (.int (v k)) := by
  unfold isBits at h
  split at h
  · rename_i m off hq
    exact get?_ofDict_map lay (fun kf => expVal kf.2 (v kf.1)) k _ hq
  · cases h

theorem getInt_reported (lay : Layout) (v : Vals) (k : String) (h : isBits lay k = true) :
    getInt (reported lay v) k = .ok (v k) := by
  unfold getInt
  rw [get?_reported lay v k h]

/-- the side condition of `decodeInto_std` for a dictionary whose key list is known -/
theorem fresh_of_keys {r : PDict} {lay : Layout} (ks : List String) (hks : r.map (·.1) = ks)
    (h : ks.all (fun k => lay.all (fun kf => k != kf.1)) = true) : ∀ k ∈ r.map (·.1), k ∉ lay.map (·.1) := by
  intro k hk hm
  obtain ⟨kf, hkf, e⟩ := List.mem_map.mp hm
  simp only [List.all_eq_true, bne_iff_ne, ne_eq] at h
  exact h k (hks ▸ hk) kf hkf e.symm

theorem decodeInto_of_decodeBits {data : Bytes} {lay : Layout} {d : Dict} (h : decodeBits data lay [] = .ok d)
    (hk : d.Pairwise (fun a b => a.1 ≠ b.1)) (r : PDict) (hfresh : ∀ k ∈ r.map (·.1), k ∉ d.map (·.1)) :
    decodeInto data lay r = .ok (r ++ ofDict d) := by
  unfold decodeInto
  rw [h]
  refine congrArg Except.ok (update_new r (ofDict d) (Assoc.pairwise_of_keys (ofDict_keys d) hk) ?_)
  rw [ofDict_keys]
  exact fun k hk hm => hfresh k hm hk

theorem decodeInto_std (lay : Layout) (b : Block) (hc : compatible lay b.rel b.len = true)
    (v : Vals) (hr : InRangeD b.rel v) (tr : Bytes) (r : PDict)
    (hfresh : ∀ k ∈ r.map (·.1), k ∉ lay.map (·.1)) :
    decodeInto (b.enc v ++ tr) lay r = .ok (r ++ reported lay v) := by
  refine decodeInto_of_decodeBits (compatible_sound lay b.rel b.len hc v hr tr)
    (Assoc.pairwise_of_keys (expected_keys lay v) (compatible_spec hc).2.1) r ?_
  rwa [expected_keys]

theorem decodeInto_std_nil (lay : Layout) (b : Block) (hc : compatible lay b.rel b.len = true)
    (v : Vals) (hr : InRangeD b.rel v) (tr : Bytes) :
    decodeInto (b.enc v ++ tr) lay [] = .ok (reported lay v) :=
  decodeInto_std lay b hc v hr tr [] (fun _ h => nomatch h)

theorem decodeInto_block (lay : Layout) (b : Block) (hc : compatible lay b.rel b.len = true) (v : Vals)
    (hr : InRangeD b.rel v) : decodeInto (b.enc v) lay [] = .ok (reported lay v) := by
  have := decodeInto_std_nil lay b hc v hr []
  rwa [List.append_nil] at this

theorem toBytes_length (n k : Nat) : (toBytes n k).length = k := by
  rw [toBytes_eq_intToBa]; simp

theorem enc_length (b : Block) (v : Vals) : (b.enc v).length = b.len := toBytes_length _ _

theorem enc_ok (b : Block) (v : Vals) : BytesOK (b.enc v) := by
  unfold Block.enc encodeD
  rw [toBytes_eq_intToBa]; exact intToBa_ok _ _

theorem b2i_be (n k : Nat) (h : n < 2 ^ (8 * k)) : Dec.b2i (toBytes n k) = n := by
  rw [toBytes_eq_intToBa]
  exact baToInt_intToBa_of_lt n k h

theorem inRange_key {fs : List DField} {v : Vals} (hr : InRangeD fs v) (k : String) (w : Nat)
    (h : fs.any (fun g => g.key == k && g.width == w) = true) : v k < 2 ^ w := by
  simp only [List.any_eq_true, Bool.and_eq_true, beq_iff_eq] at h
  obtain ⟨g, hg, rfl, rfl⟩ := h
  exact hr g hg

/-- block `b` has a field `k` of `n` whole bytes at byte `a` -/
def byteField (b : Block) (k : String) (a n : Nat) : Bool :=
  b.rel.any (fun g => g.key == k && g.byte == a && g.msb == 7 && g.width == 8 * n) && decide (a + n ≤ b.len)

theorem byteField_spec {b : Block} {k : String} {a n : Nat} (h : byteField b k a n = true) :
    (⟨k, a, 7, 8 * n⟩ : DField) ∈ b.rel ∧ a + n ≤ b.len := by
  unfold byteField at h
  simp only [Bool.and_eq_true, List.any_eq_true, beq_iff_eq, decide_eq_true_eq] at h
  obtain ⟨⟨g, hg, ⟨⟨rfl, rfl⟩, hm⟩, hw⟩, hin⟩ := h
  exact ⟨by rw [← hm, ← hw]; exact hg, hin⟩

/-- the field read with `scsi_ba_to_int(data[a:a+n])` -/
theorem b2i_slice_key (b : Block) (hf : formatOK b.len b.rel = true) (v : Vals) (hr : InRangeD b.rel v)
    (tr : Bytes) (k : String) (a n : Nat) (h : byteField b k a n = true) :
    Dec.b2i (slice (b.enc v ++ tr) a (a + n)) = v k :=
  baToInt_slice_encodeD b.len b.rel hf v hr tr (byteField_spec h).1 rfl rfl (byteField_spec h).2

/-- … with `data[a:a+n]` -/
theorem slice_key (b : Block) (hf : formatOK b.len b.rel = true) (v : Vals) (hr : InRangeD b.rel v)
    (tr : Bytes) (k : String) (a n : Nat) (h : byteField b k a n = true) :
    slice (b.enc v ++ tr) a (a + n) = intToBa (v k) n :=
  slice_encodeD b.len b.rel hf v hr tr (byteField_spec h).1 rfl rfl (byteField_spec h).2

theorem idx_eq {d : Bytes} {i x : Nat} (h : d[i]? = some x) : idx d i = .ok x := by
  unfold idx
  rw [h]

/-- a field inside one byte (`hw`) -/
theorem idx_field (b : Block) (hf : formatOK b.len b.rel = true) (v : Vals) (hr : InRangeD b.rel v)
    (tr : Bytes) (g : DField) (hg : g ∈ b.rel) (hw : g.width ≤ g.msb + 1) :
    ∃ x, (b.enc v ++ tr)[g.byte]? = some x ∧ x < 256 ∧ (x >>> (g.msb + 1 - g.width)) % 2 ^ g.width = v g.key := by
  have hok := ok_spec ((formatOK_spec hf).1 g hg)
  have hlt : g.byte < (b.enc v).length := by rw [enc_length]; exact hok.1
  refine ⟨(b.enc v)[g.byte], ?_, enc_ok b v _ (List.getElem_mem hlt), ?_⟩
  · rw [List.getElem?_append_left hlt, List.getElem?_eq_getElem hlt]
  · rw [getElem_eq_baToInt _ (enc_ok b v) _ hlt, field_of_field _ _ _ _ _ (by omega), enc_length]
    have := field_of_encodeD b.len b.rel hf v hr g hg
    unfold Block.enc
    rwa [show g.lsb b.len = 8 * (b.len - 1 - g.byte) + (g.msb + 1 - g.width) from by unfold DField.lsb; omega] at this

/-- a whole-byte field read with `data[a]` -/
theorem byte_key (b : Block) (hf : formatOK b.len b.rel = true) (v : Vals) (hr : InRangeD b.rel v)
    (tr : Bytes) (k : String) (a : Nat) (h : byteField b k a 1 = true) : (b.enc v ++ tr)[a]? = some (v k) := by
  obtain ⟨x, hx, hlt, hxv⟩ := idx_field b hf v hr tr ⟨k, a, 7, 8 * 1⟩ (byteField_spec h).1 (Nat.le_refl 8)
  rw [hx, ← hxv]
  exact congrArg some (Nat.mod_eq_of_lt hlt).symm

theorem and_two_pow (x j : Nat) : x &&& 2 ^ j = ((x >>> j) % 2) * 2 ^ j := by
  apply Nat.eq_of_testBit_eq
  intro i
  rw [Nat.testBit_and, Nat.testBit_two_pow, Nat.mul_comm, Nat.testBit_two_pow_mul]
  by_cases h : j = i
  · subst h
    simp [Nat.testBit]
  · by_cases hji : j ≤ i
    · simp [h, hji, testBit_of_lt (w := 1) (Nat.mod_lt (x >>> j) (by decide)) (show 1 ≤ i - j by omega)]
    · simp [h, hji]

/-- a one-bit field tested with `data[byte] & (1 << msb)` -/
theorem idx_bit (b : Block) (hf : formatOK b.len b.rel = true) (v : Vals) (hr : InRangeD b.rel v)
    (tr : Bytes) (g : DField) (hg : g ∈ b.rel) (hw : g.width = 1) :
    ∃ x, idx (b.enc v ++ tr) g.byte = .ok x ∧ x &&& 2 ^ g.msb = v g.key * 2 ^ g.msb := by
  obtain ⟨x, hx, _, hv⟩ := idx_field b hf v hr tr g hg (by omega)
  refine ⟨x, idx_eq hx, ?_⟩
  rw [hw] at hv
  simp only [Nat.add_sub_cancel, Nat.pow_one] at hv
  rw [and_two_pow, hv]

theorem b2i_head (n k : Nat) (post : Bytes) (hn : n < 2 ^ (8 * k)) : Dec.b2i (slice (toBytes n k ++ post) 0 k) = n := by
  rw [slice_head _ _ k (toBytes_length n k), b2i_be n k hn]

theorem b2i_at (pre : Bytes) (n k : Nat) (post : Bytes) (a b : Nat) (ha : pre.length = a) (hb : a + k = b)
    (hn : n < 2 ^ (8 * k)) : Dec.b2i (slice (pre ++ (toBytes n k ++ post)) a b) = n := by
  rw [slice_at pre _ post a b ha (by rw [toBytes_length]; exact hb), b2i_be n k hn]

theorem mapM_ok {α β : Type} (f : α → Except PyErr β) (g : α → β) (l : List α)
    (h : ∀ x ∈ l, f x = .ok (g x)) : l.mapM f = .ok (l.map g) := by
  have := Except.mapM_map_ok f id g l h
  rwa [List.map_id] at this

theorem mapIdx_map {α β γ : Type} (f : Nat → β → γ) (g : α → β) (l : List α) :
    (l.map g).mapIdx f = l.mapIdx (fun i x => f i (g x)) := by
  apply List.ext_getElem <;> simp

/-- a `while len(d): …; d = d[stride:]` loop returning the decoded items: it is enough to say what one
    iteration does with the bytes that follow the item -/
theorem loop_std {α : Type} (enc : α → Bytes) (P : α → Prop) (rep : α → PV) (F : Bytes → Except PyErr (List PV))
    (h0 : F [] = .ok []) (hs : ∀ x rest, P x → F (enc x ++ rest) = (F rest).map (rep x :: ·))
    (xs : List α) (h : ∀ x ∈ xs, P x) : F (xs.map enc).flatten = .ok (xs.map rep) := by
  induction xs with
  | nil => exact h0
  | cons x xs ih =>
    rw [List.map_cons, List.flatten_cons, hs x _ (h x (by simp)), ih (fun y hy => h y (by simp [hy]))]
    rfl

/-- the same for a loop that the model runs as `mapM f` over the chunks `C` cuts the body into: `C` cuts off one
    item, `f` decodes it.  `h1` stands last so that the goal has fixed `f` before an instance of `h1` is matched against
    it (with `f` open the unifier unfolds the item's encoder). -/
theorem chunked_std {α : Type} (enc : α → Bytes) (P : α → Prop) (rep : α → PV) (C : Bytes → List Bytes)
    (f : Bytes → Except PyErr PV) (h0 : C [] = []) (hs : ∀ x rest, P x → C (enc x ++ rest) = enc x :: C rest)
    (xs : List α) (h : ∀ x ∈ xs, P x) (h1 : ∀ x, P x → f (enc x) = .ok (rep x)) :
    (C (xs.map enc).flatten).mapM f = .ok (xs.map rep) :=
  loop_std enc P rep (fun d => (C d).mapM f) (by rw [h0]; rfl)
    (fun x rest hx => by rw [hs x rest hx, List.mapM_cons, h1 x hx]; rfl) xs h

/-- length of the body, in the `foldr` form of the oracle's `…BodyLen` -/
theorem flatten_length {α : Type} (enc : α → Bytes) (len : α → Nat) (xs : List α)
    (h : ∀ x ∈ xs, (enc x).length = len x) :
    (xs.map enc).flatten.length = xs.foldr (fun x acc => len x + acc) 0 := by
  rw [List.length_flatten, List.map_map, List.map_congr_left (f := List.length ∘ enc) h, List.sum, List.foldr_map]

theorem items_length {α : Type} (enc : α → Bytes) (k : Nat) (xs : List α) (h : ∀ x ∈ xs, (enc x).length = k) :
    (xs.map enc).flatten.length = k * xs.length := by
  rw [List.length_flatten, List.map_map, List.map_congr_left (f := List.length ∘ enc) (g := fun _ => k) h, List.map_const',
    List.sum_replicate_nat, Nat.mul_comm]

theorem pieces_cons (k : Nat) (hk : 0 < k) (x rest : Bytes) (hx : x.length = k) :
    pieces k (x ++ rest) = x :: pieces k rest := by
  rw [pieces, dif_neg (by rw [List.length_append]; omega), List.take_left' hx, List.drop_left' hx]

theorem pieces_items_append {α : Type} (enc : α → Bytes) (k : Nat) (hk : 0 < k) (xs : List α)
    (h : ∀ x ∈ xs, (enc x).length = k) (tl : Bytes) :
    pieces k ((xs.map enc).flatten ++ tl) = xs.map enc ++ pieces k tl := by
  induction xs with
  | nil => rfl
  | cons x xs ih =>
    rw [List.map_cons, List.flatten_cons, List.append_assoc, pieces_cons k hk _ _ (h x (by simp)),
      ih (fun y hy => h y (by simp [hy]))]
    rfl

theorem pieces_items {α : Type} (enc : α → Bytes) (k : Nat) (hk : 0 < k) (xs : List α) (h : ∀ x ∈ xs, (enc x).length = k) :
    pieces k (xs.map enc).flatten = xs.map enc := by
  have := pieces_items_append enc k hk xs h []
  rwa [List.append_nil, show pieces k [] = [] by unfold pieces; simp, List.append_nil] at this

end DecL
