import ScsiVerif.Model.DataCompat
import ScsiVerif.Lemmas.Layout
/-! Soundness of `DataCompat.compatible`: `decode_bits` with a compatible table returns exactly the
values a conformant device put into the standard's structure — whatever follows the structure. -/
namespace DataCompat
open Conv Std

theorem toBytes_eq_intToBa (n k : Nat) : toBytes n k = intToBa n k := by
  induction k with
  | zero => rfl
  | succ k ih =>
    simp only [toBytes, intToBa, ih]
    congr 1
    rw [and_255, Nat.shiftRight_eq_div_pow, Nat.mul_comm k 8, Nat.pow_mul]

def termsD (L : Nat) (fs : List DField) (v : Vals) : List Term :=
  fs.map (fun g => ⟨g.lsb L, g.width, v g.key⟩)

theorem pairwiseD_iff {α : Type} (r : α → α → Bool) (l : List α) :
    pairwiseD r l = true ↔ l.Pairwise (fun a b => r a b = true) := by
  induction l with
  | nil => simp [pairwiseD]
  | cons x xs ih => simp [pairwiseD, ih, List.all_eq_true]

theorem formatOK_spec {L : Nat} {fs : List DField} (h : formatOK L fs = true) :
    (∀ g ∈ fs, g.ok L = true) ∧ fs.Pairwise (fun a b => a.key ≠ b.key) ∧
    ∀ v, (termsD L fs v).Pairwise Term.disj := by
  unfold formatOK at h
  simp only [Bool.and_eq_true, List.all_eq_true] at h
  refine ⟨h.1.1, ?_, fun v => ?_⟩
  · exact ((pairwiseD_iff _ _).mp h.1.2).imp (fun h => by simpa using h)
  · unfold termsD
    rw [List.pairwise_map]
    exact ((pairwiseD_iff _ _).mp h.2).imp (fun h => by
      unfold disjD at h; unfold Term.disj; simpa using h)

theorem termsD_disj {L : Nat} {fs : List DField} (h : formatOK L fs = true) (v : Vals) :
    (termsD L fs v).Pairwise Term.disj :=
  (formatOK_spec h).2.2 v

theorem ok_spec {L : Nat} {g : DField} (h : g.ok L = true) :
    g.byte < L ∧ g.msb < 8 ∧ 0 < g.width ∧ g.width ≤ 8 * (L - 1 - g.byte) + g.msb + 1 := by
  unfold DField.ok at h
  simp only [Bool.and_eq_true, decide_eq_true_eq] at h
  exact ⟨h.1.1.1, h.1.1.2, h.1.2, h.2⟩

theorem termsD_ok {L : Nat} {fs : List DField} {v : Vals} (hr : InRangeD fs v) : ∀ t ∈ termsD L fs v, t.ok := by
  intro t ht
  obtain ⟨g, hg, rfl⟩ := List.mem_map.mp ht
  exact hr g hg

/-- the laid-out number fits the structure: no field of a consistent format reaches beyond byte 0 -/
theorem xorAll_termsD_lt (L : Nat) (fs : List DField) (hf : formatOK L fs = true) (v : Vals) (hr : InRangeD fs v) :
    xorAll (termsD L fs v) < 2 ^ (8 * L) := by
  apply Nat.lt_pow_two_of_testBit
  intro i hi
  apply xorAll_outside _ (termsD_ok hr)
  intro t ht hti
  obtain ⟨g, hg, rfl⟩ := List.mem_map.mp ht
  have := ok_spec ((formatOK_spec hf).1 g hg)
  unfold Term.inRange DField.lsb at hti
  simp only at hti
  omega

/-- the standard's structure in closed form: its arithmetic statement of a format (`Σ value · 2^position`) is the
laid-out number -/
theorem encodeD_eq {L : Nat} {fs : List DField} (hf : formatOK L fs = true) {v : Vals} (hr : InRangeD fs v) :
    encodeD L fs v = intToBa (xorAll (termsD L fs v)) L := by
  rw [encodeD, toBytes_eq_intToBa, ← sum_eq_xorAll (termsD_ok hr) (termsD_disj hf v), valueD, termsD, List.foldr_map]
  simp only [Term.val, Nat.shiftLeft_eq]

theorem encodeD_facts (L : Nat) (fs : List DField) (hf : formatOK L fs = true) (v : Vals) (hr : InRangeD fs v) :
    BytesOK (encodeD L fs v) ∧ (encodeD L fs v).length = L ∧
    baToInt (encodeD L fs v) = xorAll (termsD L fs v) := by
  rw [encodeD_eq hf hr]
  exact ⟨intToBa_ok _ _, intToBa_length _ _, baToInt_intToBa_of_lt _ _ (xorAll_termsD_lt L fs hf v hr)⟩

theorem field_of_encodeD (L : Nat) (fs : List DField) (hf : formatOK L fs = true) (v : Vals) (hr : InRangeD fs v)
    (g : DField) (hg : g ∈ fs) : (baToInt (encodeD L fs v) >>> g.lsb L) % 2 ^ g.width = v g.key := by
  rw [(encodeD_facts L fs hf v hr).2.2]
  exact xorAll_field _ (termsD_ok hr) (termsD_disj hf v) ⟨g.lsb L, g.width, v g.key⟩ (List.mem_map.mpr ⟨g, hg, rfl⟩)

/-- a field of `n` whole bytes at byte `a`, read as `scsi_ba_to_int(data[a:a+n])` -/
theorem baToInt_slice_encodeD (L : Nat) (fs : List DField) (hf : formatOK L fs = true) (v : Vals) (hr : InRangeD fs v)
    (tr : Bytes) {g : DField} (hg : g ∈ fs) {n : Nat} (hm : g.msb = 7) (hw : g.width = 8 * n) (hin : g.byte + n ≤ L) :
    baToInt (slice (encodeD L fs v ++ tr) g.byte (g.byte + n)) = v g.key := by
  obtain ⟨hb, hl, _⟩ := encodeD_facts L fs hf v hr
  -- whole bytes: with `m = L - g.byte ≥ 1`, `8 * (m - 1) + 8 - 8 * n = 8 * (m - n)`
  have hlsb : g.lsb L = 8 * (L - g.byte - n) := by
    rw [DField.lsb, hm, hw, Nat.sub_right_comm, Nat.add_assoc, ← Nat.mul_add_one,
      Nat.sub_add_cancel (Nat.sub_pos_of_lt (ok_spec ((formatOK_spec hf).1 g hg)).1), ← Nat.mul_sub]
  rw [slice_append_left _ _ _ _ (by rw [hl]; exact hin), baToInt_slice _ hb _ _ (by rw [hl]; exact hin), hl, ← hlsb, ← hw]
  exact field_of_encodeD L fs hf v hr g hg

/-- the same field as `data[a:a+n]`: a byte string is the `intToBa` of its own number and length -/
theorem slice_encodeD (L : Nat) (fs : List DField) (hf : formatOK L fs = true) (v : Vals) (hr : InRangeD fs v)
    (tr : Bytes) {g : DField} (hg : g ∈ fs) {n : Nat} (hm : g.msb = 7) (hw : g.width = 8 * n) (hin : g.byte + n ≤ L) :
    slice (encodeD L fs v ++ tr) g.byte (g.byte + n) = intToBa (v g.key) n := by
  obtain ⟨hb, hl, _⟩ := encodeD_facts L fs hf v hr
  have hv := baToInt_slice_encodeD L fs hf v hr tr hg hm hw hin
  rw [slice_append_left _ _ _ _ (by rw [hl]; exact hin)] at hv ⊢
  have := intToBa_baToInt _ (hb.slice g.byte (g.byte + n))
  rw [show (slice (encodeD L fs v) g.byte (g.byte + n)).length = n by
    rw [slice, List.length_drop, List.length_take, hl, Nat.min_eq_left hin, Nat.add_sub_cancel_left], hv] at this
  exact this.symm

theorem decodeMask_append (a t : Bytes) (m off : Nat) (h : off + numBytes m ≤ a.length) :
    decodeMask (a ++ t) m off = decodeMask a m off := by
  unfold decodeMask
  rw [slice_append_left a t _ _ h]

theorem decodeField_std (L : Nat) (fs : List DField) (hf : formatOK L fs = true) (v : Vals) (hr : InRangeD fs v)
    (tr : Bytes) (f : FieldSpec) (g : DField) (hg : g ∈ fs) (hm : entryMatches L f g = true) :
    decodeField (encodeD L fs v ++ tr) f = expVal f (v g.key) := by
  cases f with
  | bits m off =>
    obtain ⟨hb, hl, _⟩ := encodeD_facts L fs hf v hr
    simp only [entryMatches, Bool.and_eq_true, beq_iff_eq] at hm
    obtain ⟨⟨hbw, hlsb⟩, hw⟩ := hm
    rw [decodeField, expVal, decodeMask_append _ _ _ _ (by rw [hl]; exact (bitsWF_spec hbw).2.2),
      decodeMask_wf hbw hb hl, hlsb, hw, field_of_encodeD L fs hf v hr g hg]
  | blob unit off len =>
    simp only [entryMatches, Bool.and_eq_true, beq_iff_eq, decide_eq_true_eq] at hm
    obtain ⟨⟨⟨⟨hby, hmsb⟩, hwd⟩, hin⟩, _⟩ := hm
    rw [decodeField, expVal, ← hby, slice_encodeD L fs hf v hr tr hg hmsb hwd (hby ▸ hin)]

theorem expected_keys (lay : Layout) (v : Vals) : (expected lay v).map (·.1) = lay.map (·.1) := by
  simp [expected, List.map_map, Function.comp_def]

theorem compatible_spec {lay : Layout} {fs : List DField} {L : Nat} (hc : compatible lay fs L = true) :
    formatOK L fs = true ∧ lay.Pairwise (fun a b => a.1 ≠ b.1) ∧
    ∀ kf ∈ lay, ∃ g ∈ fs, g.key = kf.1 ∧ entryMatches L kf.2 g = true := by
  unfold compatible at hc
  simp only [Bool.and_eq_true, List.all_eq_true, List.any_eq_true, beq_iff_eq] at hc
  exact ⟨hc.1.1, pairwiseB_keys hc.1.2, hc.2⟩

theorem compatible_format {lay : Layout} {fs : List DField} {L : Nat} (hc : compatible lay fs L = true) :
    formatOK L fs = true := (compatible_spec hc).1

/-- For all in-range field values and any trailing bytes, `decode_bits` of the standard's structure returns every key
of the table with exactly the value the device encoded. -/
theorem compatible_sound (lay : Layout) (fs : List DField) (L : Nat) (hc : compatible lay fs L = true)
    (v : Vals) (hr : InRangeD fs v) (tr : Bytes) :
    decodeBits (encodeD L fs v ++ tr) lay [] = .ok (expected lay v) := by
  obtain ⟨hf, hk, hall⟩ := compatible_spec hc
  have hnz : ∀ kf ∈ lay, ∀ off, kf.2 ≠ .bits 0 off := by
    intro kf hkf off he
    obtain ⟨g, _, _, hm⟩ := hall kf hkf
    rw [he] at hm
    simp only [entryMatches, Bool.and_eq_true] at hm
    obtain ⟨hmk, hw0, _⟩ := bitsWF_spec hm.1.1
    exact mkMask_ne_zero _ _ hw0 hmk.symm
  rw [decodeBits_go (encodeD L fs v ++ tr) lay [] hnz hk (by intro kv hkv; simp at hkv)]
  simp only [List.nil_append, decodedOf, expected]
  congr 1
  apply List.map_congr_left
  intro kf hkf
  obtain ⟨g, hg, hgk, hm⟩ := hall kf hkf
  rw [decodeField_std L fs hf v hr tr kf.2 g hg hm, hgk]

end DataCompat
