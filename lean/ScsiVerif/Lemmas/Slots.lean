/-!
One object among several held in a list: an update of slot `k` written as
`w.mapIdx (fun i x => if i = k then f x else x)` (`Attach.attach`, `EnumM.stepAt`, `Handle.closeCur`),
and histories of such updates.
-/
namespace Slots
variable {α ε : Type}

theorem foldl_slot (upd : α → ε → α) (w : List α) (hist : List (Nat × ε)) (j : Nat) (a : α) (h : w[j]? = some a) :
    (hist.foldl (fun w ke => w.mapIdx (fun i x => if i = ke.1 then upd x ke.2 else x)) w)[j]? =
      some (((hist.filter (·.1 = j)).map (·.2)).foldl upd a) := by
  induction hist generalizing w a with
  | nil => exact h
  | cons ke rest ih =>
    rw [List.foldl_cons, List.filter_cons]
    by_cases hk : ke.1 = j
    · simpa [hk] using ih _ (upd a ke.2) (by simp [h])
    · simpa [hk] using ih _ a (by simp [h, Ne.symm hk])

theorem getElem?_concat_eq_some (l : List α) (a b : α) (i : Nat) :
    (l ++ [a])[i]? = some b ↔ l[i]? = some b ∨ (i = l.length ∧ a = b) := by
  rcases Nat.lt_trichotomy i l.length with h | h | h
  · simp [List.getElem?_append_left h, Nat.ne_of_lt h]
  · simp [h]
  · have : (l ++ [a])[i]? = none :=
      List.getElem?_eq_none (by rw [List.length_append, List.length_singleton]; omega)
    simp [this, List.getElem?_eq_none (Nat.le_of_lt h), Nat.ne_of_gt h]

end Slots
