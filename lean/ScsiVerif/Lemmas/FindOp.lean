import ScsiVerif.Model.Compat
/-! `Compat.findOp` in a form the kernel evaluates cheaply on string keys. -/
namespace Compat
open Cmd

/-- The two-character suffix rule of `get_opcode`, stated with `String.endsWith`, which the kernel evaluates on a key
several times faster than `length`, `drop` and `toString` (each decodes the key's UTF-8).  The length test that
remains is on the command's own name (`Ascii.length_eq` counts it on bytes). -/
theorem findOp_eq (set : List (String × OpCode)) (opName : String) :
    findOp set opName =
      ((if opName.length == 2 then set.find? (fun ko => ko.1.endsWith opName)
        else set.find? (·.1 == opName)).map (·.2)) := by
  have suffix (k p : String) : ((k.drop (k.length - p.length)).toString == p) = k.endsWith p := by
    rw [Bool.eq_iff_iff, beq_iff_eq, String.Slice.toString, ← String.toList_inj, String.toList_copy_drop,
      ← String.endsWith_toSlice, String.Slice.endsWith_string_iff, String.copy_toSlice,
      ← String.length_toList, ← String.length_toList, List.suffix_iff_eq_drop, eq_comm]
  unfold findOp
  split
  · rename_i h
    simp only [← beq_iff_eq.mp h, suffix]
  · rfl

end Compat
