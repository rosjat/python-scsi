import ScsiVerif.Lemmas.Layout
import ScsiVerif.Lemmas.Ascii
import ScsiVerif.Model.Sense
import ScsiVerif.Std.Sense
/-!
# C08 — sense data is always decodable and printable, with the right key/ASC/ASCQ
-/
namespace C08
open Conv Sense Std Ascii

/-- a sense data format as `SCSICheckCondition.__init__` uses it: the layout table it decodes with and
the byte positions at which that table puts SENSE KEY (low nibble), ASC and ASCQ -/
structure Fmt where
  layout : Layout
  len : Nat
  key : Nat
  asc : Nat
  ascq : Nat

def Fmt.OK (f : Fmt) : Prop :=
  f.layout.wf f.len = true ∧
  layoutGet? f.layout "sense_key" = some (.bits 0x0F f.key) ∧
  layoutGet? f.layout "additional_sense_code" = some (.bits 0xFF f.asc) ∧
  layoutGet? f.layout "additional_sense_code_qualifier" = some (.bits 0xFF f.ascq)

def fixedFmt : Fmt := ⟨Gen.SCSICheckCondition_fixed_format_sdata_bits, 18, 2, 12, 13⟩
def descFmt : Fmt := ⟨Gen.SCSICheckCondition_desc_format_sdata_bits, 8, 1, 2, 3⟩

theorem fixedFmt_ok : fixedFmt.OK := by unfold Fmt.OK; decide +kernel
theorem descFmt_ok : descFmt.OK := by unfold Fmt.OK; decide +kernel

/-- what `__init__` makes of a buffer `s` in format `f` (`v`, `rc`: VALID bit and response code) -/
def Fmt.err (f : Fmt) (s : Bytes) (v rc : Nat) : Err :=
  ⟨v, rc, decodedOf s f.layout, some (decodeMask s 0xFF f.asc), some (decodeMask s 0xFF f.ascq)⟩

theorem getInt_decoded {data : Bytes} {layout : Layout} {k : String} {m off : Nat}
    (hg : layoutGet? layout k = some (.bits m off)) :
    getInt (decodedOf data layout) k = .ok (decodeMask data m off) := by
  unfold getInt
  rw [dictGet?_decodedOf data layout k _ hg]
  rfl

theorem Fmt.OK.decode {f : Fmt} (hf : f.OK) (s : Bytes) (v rc : Nat) :
    (do let d ← decodeBits s f.layout []
        let a ← getInt d "additional_sense_code"
        let q ← getInt d "additional_sense_code_qualifier"
        pure (⟨v, rc, d, some a, some q⟩ : Err)) = .ok (f.err s v rc) := by
  obtain ⟨hwf, _, ha, hq⟩ := hf
  simp only [decodeBits_wf _ _ _ hwf, bind, Except.bind, getInt_decoded ha, getInt_decoded hq]
  rfl

theorem mk_cons (b0 : Nat) (rest : Bytes) :
    mk (b0 :: rest) = .ok (
      if b0 &&& 0x7F = 0x70 ∨ b0 &&& 0x7F = 0x71 then fixedFmt.err (b0 :: rest) (b0 &&& 0x80) (b0 &&& 0x7F)
      else if b0 &&& 0x7F = 0x72 ∨ b0 &&& 0x7F = 0x73 then descFmt.err (b0 :: rest) (b0 &&& 0x80) (b0 &&& 0x7F)
      else ⟨b0 &&& 0x80, b0 &&& 0x7F, [], none, none⟩) := by
  -- branch by branch (`mk` on a non-empty buffer unfolds to the same two tests)
  rw [apply_ite Except.ok, apply_ite Except.ok]
  exact ite_congr rfl (fun _ => fixedFmt_ok.decode (b0 :: rest) _ _)
    (fun _ => ite_congr rfl (fun _ => descFmt_ok.decode (b0 :: rest) _ _) (fun _ => rfl))

theorem Fmt.OK.str_ok {f : Fmt} (hf : f.OK) (s : Bytes) (v rc : Nat) : ∃ t, str (f.err s v rc) = .ok t := by
  simp [str, Fmt.err, getInt_decoded hf.2.1, bind, Except.bind, pure, Except.pure]

/-- `decode_bits` on a one-byte mask that starts at bit 0 (so `tz m = 0`), for buffers of **any** length:
a missing byte reads 0 -/
theorem decodeMask_byte {data : Bytes} {m off : Nat} (hm : m ≤ 0xFF) (h0 : m % 2 = 1) :
    decodeMask data m off = byteAt data off &&& m := by
  have hn : numBytes m = 1 := by unfold numBytes; simp [Nat.not_lt.mpr hm]
  unfold decodeMask byteAt
  rw [hn, slice_one, show tz m = 0 from tz_shiftLeft h0 0]
  cases data[off]? <;> simp [baToInt]

theorem Fmt.OK.triple {f : Fmt} (hf : f.OK) (s : Bytes) (hb : ∀ b ∈ s, b < 256) (v rc : Nat) :
    triple (f.err s v rc) = some (byteAt s f.key % 16, byteAt s f.asc, byteAt s f.ascq) := by
  have hby : ∀ i, byteAt s i % 2 ^ 8 = byteAt s i := by
    intro i
    apply Nat.mod_eq_of_lt
    unfold byteAt
    cases hi : s[i]? with
    | none => decide
    | some x => exact hb x (List.mem_of_getElem? hi)
  simp only [Sense.triple, Fmt.err, getInt_decoded hf.2.1, Except.toOption]
  rw [decodeMask_byte (by decide) rfl, decodeMask_byte (by decide) rfl, decodeMask_byte (by decide) rfl]
  simp only [show (0x0F : Nat) = 2 ^ 4 - 1 from rfl, show (0xFF : Nat) = 2 ^ 8 - 1 from rfl,
    Nat.and_two_pow_sub_one_eq_mod, hby]

/-- **Construction and printing never raise**: for every non-empty sense buffer — any response
code, any length, any contents — the error object can be built and converted to text. -/
theorem never_raises (sense : Bytes) (hne : sense ≠ []) : ∃ e s, mk sense = .ok e ∧ str e = .ok s := by
  cases sense with
  | nil => exact absurd rfl hne
  | cons b0 rest =>
    rw [mk_cons]
    -- it is enough that printing what `mk` returns succeeds
    refine (?_ : ∃ s, str _ = .ok s).elim fun s hs => ⟨_, s, rfl, hs⟩
    split
    · exact fixedFmt_ok.str_ok ..
    split
    · exact descFmt_ok.str_ok ..
    · exact ⟨_, rfl⟩

/-- **The sense key, ASC and ASCQ reported are the values at the positions SPC defines** for the
format (fixed 70h/71h: byte 2 low nibble, bytes 12, 13; descriptor 72h/73h: byte 1 low nibble,
bytes 2, 3) — current or deferred, for buffers of every length (a byte beyond the end reads 0). -/
theorem reports_spc_fields (sense : Bytes) (hb : ∀ b ∈ sense, b < 256) (e : Err) (h : mk sense = .ok e) :
    triple e = senseFields sense := by
  cases sense with
  | nil => simp [mk] at h
  | cons b0 rest =>
    have hrc : byteAt (b0 :: rest) 0 % 128 = b0 &&& 0x7F := (Nat.and_two_pow_sub_one_eq_mod b0 7).symm
    rw [mk_cons] at h
    cases h
    unfold senseFields
    simp only [hrc]
    split
    · exact fixedFmt_ok.triple _ hb ..
    split
    · exact descFmt_ok.triple _ hb ..
    · rfl

/-- every one of the 65 536 ASC/ASCQ pairs and every one of the 16 sense keys has a description
(`describeAscq` and the key lookup are total functions: no `KeyError` is possible) -/
theorem every_code_described (asc ascq : Nat) : ∃ s, describeAscq asc ascq = s := ⟨_, rfl⟩

/-! The texts are compared case-insensitively with the T10 list.  `Std.upper` goes through `String.toList`, which
decodes UTF-8 by well-founded recursion: slow when the kernel evaluates it on a hundred texts.  So the comparison is
evaluated on bytes (`upperEq`), and `upper_of_upperEq` carries the result over to `upper`; all the texts are ASCII. -/

def upperN (n : Nat) : Nat := if 97 ≤ n ∧ n ≤ 122 then n - 32 else n

def upperEq (t e : String) : Bool :=
  (bytesN t).all (· < 128) && (bytesN e).all (· < 128) && (bytesN t).map upperN == bytesN e

theorem upper_ascii : ∀ n < 128,
    (if 'a' ≤ Char.ofNat n ∧ Char.ofNat n ≤ 'z' then Char.ofNat ((Char.ofNat n).toNat - 32) else Char.ofNat n)
      = Char.ofNat (upperN n) := by decide +kernel

theorem upper_of_upperEq (t e : String) (h : upperEq t e = true) : upper t = e := by
  simp only [upperEq, Bool.and_eq_true, beq_iff_eq] at h
  obtain ⟨⟨ht, he⟩, hm⟩ := h
  rw [congrArg upper (ofList_bytes t ht), ofList_bytes e he, ← hm, upper, String.toList_ofList, List.map_map,
    List.map_map]
  congr 1
  apply List.map_congr_left
  intro n hn
  exact upper_ascii n (by simpa using List.all_eq_true.mp ht n hn)

def upperEq? (o : Option String) (e : String) : Bool :=
  match o with
  | some t => upperEq t e
  | none => false

theorem upperEq?_sound {o : Option String} {e : String} (h : upperEq? o e = true) : o.map upper = some e := by
  cases o with
  | none => cases h
  | some t => exact congrArg some (upper_of_upperEq t e h)

/-- **assigned codes are described by their T10 text** (the well-known assignments of `Std.ascqNames`,
compared case-insensitively), decided on the regenerated table -/
theorem known_codes_have_t10_text :
    Std.ascqNames.all (fun e => upperEq? (lookupText Gen.senseAscq (e.1 * 256 + e.2.1)) e.2.2) = true := by
  decide +kernel

theorem sense_keys_eval : Std.senseKeyNames.all (fun e => upperEq? (lookupText Gen.senseKeys e.1) e.2) = true := by
  decide +kernel

theorem sense_keys_have_t10_names :
    Std.senseKeyNames.all (fun e => (lookupText Gen.senseKeys e.1).map upper == some e.2) = true :=
  List.all_eq_true.mpr fun e he => by
    rw [upperEq?_sound (List.all_eq_true.mp sense_keys_eval e he)]; exact beq_self_eq_true _

theorem vendor_range : Gen.vendorAscLo = 0x80 ∧ Gen.vendorAscHi = 0xFF := by decide +kernel

/-- **every listed pair is described by the table's own text** (also inside the vendor ranges: 5Dh/FFh) -/
theorem listed_pair_uses_table (asc ascq : Nat) (t : String)
    (ht : lookupText Gen.senseAscq (asc * 256 + ascq) = some t) : describeAscq asc ascq = t := by
  simp [describeAscq, ht]

/-- what `describeAscq` returns for a well-known assignment is its T10 text -/
theorem known_codes_described (e : Nat × Nat × String) (he : e ∈ Std.ascqNames) :
    ∃ t, describeAscq e.1 e.2.1 = t ∧ upper t = e.2.2 := by
  obtain ⟨t, hl, ht⟩ := Option.map_eq_some_iff.mp (upperEq?_sound (List.all_eq_true.mp known_codes_have_t10_text e he))
  exact ⟨t, listed_pair_uses_table _ _ t hl, ht⟩

example : (mk [0x72, 0x05, 0x24, 0x00, 0, 0, 0, 0]).toOption.bind triple = some (5, 0x24, 0) := by decide +kernel

end C08
