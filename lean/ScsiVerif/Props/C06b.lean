import ScsiVerif.Props.C06
import ScsiVerif.Props.C04b
/-!
# C06 (continued) — whole structures: rebuilding what was parsed reproduces the canonical response

`C04*` proves that the decoders return what the device encoded (`Dec.x (Std.enc… ) = reported …`).
Here the builders (`Enc.*`, models of `marshall_datain`) are shown to produce the standard's
structure from exactly those reported values, for every descriptor count and every value:

    Enc.x (what Dec.x reports for the response r) = r          (bytes → dict → bytes)

and the `_roundtrip` theorems join it to the decoder theorem: the response parses to some `d`, and that `d` rebuilds
to the response — so `Dec.x (Enc.x d) = d` for every `d` in reported form (dict → bytes → dict).  This is done
for GET LBA STATUS, REPORT PRIORITY, REPORT TARGET PORT GROUPS (length-only header format) and REPORT LUNS.
-/
namespace C06
open Conv PVal Std DataCompat DecL C04

theorem asDict_dict (d : PDict) : Enc.asDict (.dict d) = .ok d := rfl

/-- **a parsed block rebuilds to itself** (nested-value version of `rebuild_canonical`), whatever further entries
    the dictionary has under keys of their own -/
theorem encodeFrom_reported_extra (b : Block) (lay : Layout) (h : C05.pairOK (b, lay) = true ∧ covers lay b = true)
    (v : Vals) (hr : InRangeD b.rel v) (extra : PDict) (hx : ∀ kv ∈ extra, kv.1 ∉ (reported lay v).map (·.1)) :
    encodeFrom (reported lay v ++ extra) lay (zeros b.len) = .ok (b.enc v) := by
  unfold encodeFrom reported
  rw [EncL.toConv_ofDict lay _ extra (fun _ hk => expected_keys lay v ▸ hk)
    (fun kv hkv => Assoc.find_eq_none.mpr (reported_keys lay v ▸ hx kv hkv)), bind_ok]
  exact (rebuild_expected b lay h.1 h.2 v hr).2

theorem encodeFrom_reported (b : Block) (lay : Layout) (h : C05.pairOK (b, lay) = true ∧ covers lay b = true)
    (v : Vals) (hr : InRangeD b.rel v) :
    encodeFrom (reported lay v) lay (zeros b.len) = .ok (b.enc v) := by
  simpa using encodeFrom_reported_extra b lay h v hr [] (fun _ h => nomatch h)

/-- **bytes → dict → bytes**: rebuilding what the parser reports for a GET LBA STATUS response
    reproduces the response (PARAMETER DATA LENGTH n−3 included), for every descriptor count -/
theorem getLbaStatus_rebuild (ds : List Vals) (hr : ∀ v ∈ ds, InRangeD lbaStatusDescriptor.rel v) :
    Enc.getLbaStatus [("lbas", .list (ds.map (fun v => PV.dict (reported Gen.GetLBAStatus_datain_bits v))))] =
      .ok (encGetLbaStatus ds) := by
  unfold Enc.getLbaStatus
  simp only [get?_cons_self]
  rw [Except.mapM_map_ok _ _ lbaStatusDescriptor.enc]
  · simp only [bind, Except.bind, pure, Except.pure]
    unfold encGetLbaStatus
    rw [items_length _ 16 ds (fun v _ => enc_length _ v), toBytes_eq_intToBa]
    rfl
  · intro v hv
    simp only [Enc.asDict, bind, Except.bind]
    exact encodeFrom_reported lbaStatusDescriptor Gen.GetLBAStatus_datain_bits (fullyCovered_at 2) v (hr v hv)

/-- the response parses to `d`, and `d` rebuilds to the response -/
theorem getLbaStatus_roundtrip (ds : List Vals) (hr : ∀ v ∈ ds, InRangeD lbaStatusDescriptor.rel v)
    (hfit : 4 + 16 * ds.length < 2 ^ 32) :
    ∃ d, Dec.getLbaStatus (encGetLbaStatus ds) = .ok (.dict d) ∧ Enc.getLbaStatus d = .ok (encGetLbaStatus ds) := by
  refine ⟨_, ?_, getLbaStatus_rebuild ds hr⟩
  simpa using getLbaStatus_decodes ds hr hfit []

/-- **bytes → dict → bytes** for REPORT PRIORITY: every descriptor with its TransportID, ADDITIONAL
    DESCRIPTOR LENGTH and PRIORITY PARAMETER DATA LENGTH recomputed by the builder -/
theorem reportPriority_rebuild (ds : List (Vals × Bytes)) (h : ∀ d ∈ ds, PrioOK d) :
    Enc.reportPriority [("priority_descriptors", .list (ds.map prioReported))] = .ok (encReportPriority ds) := by
  unfold Enc.reportPriority
  simp only [get?_cons_self]
  rw [Except.mapM_map_ok _ _ encPriorityDescriptor]
  · simp only [bind, Except.bind, pure, Except.pure]
    unfold encReportPriority
    rw [encPriorityDescriptors_length, toBytes_eq_intToBa]
  · -- the loop body on one reported descriptor: the TransportID is read back, `adlen` assigned, the block encoded
    intro d hd
    obtain ⟨hr, hlen⟩ := h d hd
    have row := fullyCovered_at 5
    have hnew := prio_new d.1
    -- `adlen` is reported as the length of the TransportID already: the builder's assignment changes nothing
    have hadlen : ("adlen", PV.int d.2.length) ∈ reported Gen.ReportPriority_data_bits d.1 ++ [("transport_id", PV.bytes d.2)] :=
      List.mem_append_left _ (hlen ▸ Assoc.find_mem (get?_reported _ d.1 "adlen" prio_adlen))
    unfold prioReported
    rw [asDict_dict, bind_ok, get?_concat _ _ _ hnew]
    dsimp only
    rw [show (pure d.2 : Except PyErr Bytes) = .ok d.2 from rfl, bind_ok,
      set_same _ _ _ hadlen (pairwise_concat (reported_pairwise (wf_keys (C05.pairOK_iff.mp row.1).1) d.1) _ _ hnew),
      show zeros 8 = zeros priorityDescriptor.len from rfl,
      encodeFrom_reported_extra priorityDescriptor _ row d.1 hr _ (fun _ hkv => List.mem_singleton.mp hkv ▸ hnew)]
    rfl

theorem reportPriority_roundtrip (ds : List (Vals × Bytes)) (h : ∀ d ∈ ds, PrioOK d) (hfit : prioBodyLen ds < 2 ^ 32) :
    ∃ d, Dec.reportPriority (encReportPriority ds) = .ok (.dict d) ∧ Enc.reportPriority d = .ok (encReportPriority ds) := by
  refine ⟨_, ?_, reportPriority_rebuild ds h⟩
  simpa using reportPriority_decodes ds h hfit []

theorem tport_enc (p : Vals) (hr : InRangeD targetPortDescriptor.rel p) :
    targetPortDescriptor.enc p = zeros 2 ++ intToBa (p "relative_target_port_id") 2 := by
  rw [← intToBa_pad _ 2 2 (hr ⟨"relative_target_port_id", 2, 7, 16⟩ (.head _))]
  unfold Block.enc encodeD
  rw [toBytes_eq_intToBa]
  -- `valueD` of the block's one field, by evaluation
  show intToBa (p "relative_target_port_id" * 2 ^ 0 + 0) 4 = _
  simp

/-- the loop body of `Enc.reportTargetPortGroups`, on one reported group -/
theorem tpg_rebuild_one (g : Vals × List Vals) (h : TpgOK g) :
    (do let gd ← Enc.asDict (tpgReported g)
        let hdr ← encodeFrom gd Gen.ReportTargetPortGroups_tpgd_bits (zeros 8)
        let ports ← getList gd "target_ports"
        let ps ← ports.mapM (fun p => do
          let p ← Enc.asDict p
          pure (zeros 2 ++ intToBa (← getInt p "relative_target_port_id") 2))
        pure (hdr ++ ps.flatten)) = (.ok (encTpg g) : Except PyErr Bytes) := by
  have hnew := tpg_new g.1
  unfold tpgReported
  rw [asDict_dict, bind_ok, show zeros 8 = zeros tpgDescriptor.len from rfl,
    encodeFrom_reported_extra tpgDescriptor Gen.ReportTargetPortGroups_tpgd_bits (fullyCovered_at 4) g.1 h.1 _
      (fun _ hkv => List.mem_singleton.mp hkv ▸ hnew),
    bind_ok, getList, get?_concat _ _ _ hnew]
  dsimp only
  rw [bind_ok, Except.mapM_map_ok _ portReported targetPortDescriptor.enc g.2, bind_ok]
  · rfl
  · intro p hp
    simp only [portReported, Enc.asDict, bind, Except.bind, getInt, get?_cons_self, pure, Except.pure]
    rw [tport_enc p (h.2.2 p hp)]

/-- **bytes → dict → bytes** for REPORT TARGET PORT GROUPS (length only header format): every group with
    its target ports, RETURN DATA LENGTH recomputed by the builder -/
theorem rtpg_rebuild (gs : List (Vals × List Vals)) (h : ∀ g ∈ gs, TpgOK g) :
    Enc.reportTargetPortGroups [("format_type", .int 0), ("target_port_group_descriptors", .list (gs.map tpgReported))] =
      .ok (encRtpg gs) := by
  unfold Enc.reportTargetPortGroups
  rw [get?_cons_self]
  simp only [Bool.false_eq_true, if_false]
  rw [show (pure [] : Except PyErr Bytes) = Except.ok [] from rfl, bind_ok, getList, get?_cons_ne _ _ _ _ (by decide),
    get?_cons_self]
  dsimp only
  rw [bind_ok]
  -- the mapped function is fixed by the goal before the per-item proof is given: elaborated against an unknown
  -- function, the unifier would evaluate the builder on the concrete tables
  rw [Except.mapM_map_ok _ tpgReported encTpg gs, bind_ok]
  · unfold encRtpg
    simp only [List.nil_append, pure, Except.pure]
    rw [encTpgs_length, toBytes_eq_intToBa]
  · exact fun g hgm => tpg_rebuild_one g (h g hgm)

theorem rtpg_roundtrip (gs : List (Vals × List Vals)) (h : ∀ g ∈ gs, TpgOK g) (hfit : tpgBodyLen gs < 2 ^ 32) :
    ∃ d, Dec.reportTargetPortGroups (encRtpg gs) = .ok (.dict d) ∧ Enc.reportTargetPortGroups d = .ok (encRtpg gs) := by
  refine ⟨_, ?_, rtpg_rebuild gs h⟩
  simpa using rtpg_decodes gs h hfit []

/-- **bytes → dict → bytes** for REPORT LUNS: the entries the parser reports under `lun0`, `lun1`, … rebuild, in order,
    to the LUN list with LUN LIST LENGTH (n−7) recomputed -/
theorem reportLuns_rebuild (luns : List Vals) (hr : ∀ v ∈ luns, InRangeD lunEntry.rel v) :
    Enc.reportLuns [("luns", .list (luns.mapIdx (fun i v => PV.dict [("lun" ++ toString i, .int (v "lun"))])))] =
      .ok (encReportLuns luns) := by
  unfold Enc.reportLuns
  rw [get?_cons_self]
  dsimp only
  rw [List.mapIdx_mapIdx, Except.mapM_mapIdx_ok _ _ lunEntry.enc luns, bind_ok]
  · unfold encReportLuns
    simp only [pure, Except.pure]
    rw [items_length _ 8 luns (fun v _ => enc_length _ v), toBytes_eq_intToBa]
    rfl
  · -- one entry, under the key the parser gave it (`lun<i>`), is the table's block for `lun`
    intro i v hv
    have he := encodeFrom_reported lunEntry Gen.ReportLuns_datain_bits (fullyCovered_at 3) v (hr v hv)
    rw [lun_reported] at he
    simp only [Function.comp, asDict_dict, bind_ok, get?_cons_self]
    exact he

theorem reportLuns_roundtrip (luns : List Vals) (hr : ∀ v ∈ luns, InRangeD lunEntry.rel v) (hfit : 8 * luns.length < 2 ^ 32) :
    ∃ d, Dec.reportLuns (encReportLuns luns) = .ok (.dict d) ∧ Enc.reportLuns d = .ok (encReportLuns luns) := by
  refine ⟨_, ?_, reportLuns_rebuild luns hr⟩
  simpa using reportLuns_decodes luns hr hfit []

end C06
