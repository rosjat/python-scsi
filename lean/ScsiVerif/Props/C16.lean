import ScsiVerif.Model.Attach
import ScsiVerif.Lemmas.Slots
import ScsiVerif.Gen.Opcodes
/-!
# C16 — attaching to a device selects the command set of its peripheral device type
-/
namespace C16
open Attach

/-- SPC: peripheral device type → command standard (the assignments the property names) -/
def stdSet (t : Nat) : Option String :=
  match t with
  | 0x00 => some "sbc"   -- direct access block device
  | 0x04 => some "sbc"   -- write-once device
  | 0x07 => some "sbc"   -- optical memory device
  | 0x01 => some "ssc"   -- sequential-access device
  | 0x05 => some "mmc"   -- CD/DVD device
  | 0x08 => some "smc"   -- media changer
  | _ => none             -- processor and everything else: any set offering the primary commands

/-- wherever SPC names a command set for a device type, the library's chain assigns that set -/
theorem chain_covers_std (t : Nat) (s : String) (h : stdSet t = some s) : pdtChain t = some s := by
  unfold stdSet at h
  split at h
  -- six assignments, on whose literal type the chain evaluates; the catch-all row assigns nothing
  iterate 6 exact h
  cases h

/-- the qualifier bits are masked off before the chain is consulted: no bound on `b` is needed -/
theorem selection_of_byte (b : Nat) :
    (attachDev {} b).devicetype = some (b % 32) ∧
    ∀ s, stdSet (b % 32) = some s → (attachDev {} b).opcodes = s := by
  have hm : b &&& 0x1F = b % 32 := Nat.and_two_pow_sub_one_eq_mod b 5
  unfold attachDev
  simp only [hm]
  exact ⟨trivial, fun s hs => by rw [chain_covers_std _ s hs]; rfl⟩

/-- **for all 32 device types × all 8 qualifiers**: a freshly opened device that reports type `t`
gets SBC for 00h/04h/07h, SSC for 01h, MMC for 05h, SMC for 08h; the qualifier bits play no role. -/
theorem selection (b : Nat) (hb : b < 256) :
    (attachDev {} b).devicetype = some (b % 32) ∧
    ∀ s, stdSet (b % 32) = some s → (attachDev {} b).opcodes = s :=
  selection_of_byte b

theorem pdtChain_mem (t : Nat) (s : String) (h : pdtChain t = some s) : s ∈ ["spc", "sbc", "ssc", "smc", "mmc"] := by
  unfold pdtChain at h
  -- five branches that assign a set, and the end of the chain
  iterate 5
    split at h
    · cases h; decide
  cases h

/-- whatever a device reports, after an attach it holds one of the five command sets (given it did before) -/
theorem selected_is_a_set (d : Dev) (b : Nat) (hd : d.opcodes ∈ ["spc", "sbc", "ssc", "smc", "mmc"]) :
    (attachDev d b).opcodes ∈ ["spc", "sbc", "ssc", "smc", "mmc"] := by
  show (pdtChain (b &&& 0x1F)).getD d.opcodes ∈ _
  cases h : pdtChain (b &&& 0x1F) with
  | none => exact hd
  | some s => exact pdtChain_mem _ s h

/-- every command set (hence the one selected for processor and unrecognised types) offers the
primary commands INQUIRY, TEST UNIT READY and REPORT LUNS with their T10 operation codes -/
def primaryOK (set : List (String × Cmd.OpCode)) : Bool :=
  ((set.find? (·.1 == "INQUIRY")).map (·.2.value) == some 0x12) &&
  ((set.find? (·.1 == "TEST_UNIT_READY")).map (·.2.value) == some 0x00) &&
  ((set.find? (·.1 == "REPORT_LUNS")).map (·.2.value) == some 0xA0)

theorem every_set_offers_primary_commands : Gen.sets.all (fun s => primaryOK s.2) = true := by decide +kernel

theorem set_names : Gen.sets.map (·.1) = ["spc", "sbc", "ssc", "smc", "mmc"] := by decide +kernel

/-- exactly one INQUIRY per attach -/
theorem one_inquiry (d : Dev) (b : Nat) : (attachDev d b).inquiries = d.inquiries + 1 := rfl

theorem run_eq_foldl (w : World) (h : List (Nat × Nat)) : run w h = h.foldl (fun w kb => attach w kb.1 kb.2) w := by
  induction h generalizing w with
  | nil => rfl
  | cons e rest ih => exact ih _

def eventsOf (j : Nat) (h : List (Nat × Nat)) : List Nat := (h.filter (·.1 = j)).map (·.2)

/-- **for every attach / re-attach history over any number of devices**: the state of device `j`
(its command set, device type, number of INQUIRYs received) is what its *own* attaches make it —
no other device's type ever leaks into it. -/
theorem no_leak (w : World) (h : List (Nat × Nat)) (j : Nat) (d : Dev) (hd : w[j]? = some d) :
    (run w h)[j]? = some ((eventsOf j h).foldl attachDev d) := by
  rw [run_eq_foldl]
  exact Slots.foldl_slot attachDev w h j d hd

/-- when the last type a device reported is one the chain recognises, its command set is the one for that type,
whatever it reported before -/
theorem last_report_wins (d : Dev) (bs : List Nat) (b : Nat) (s : String) (hs : pdtChain (b &&& 0x1F) = some s) :
    ((bs ++ [b]).foldl attachDev d).opcodes = s := by
  rw [List.foldl_append]
  simp [attachDev, hs]

example : (run [{}, {}] [(0, 0x05), (1, 0x1F), (0, 0x20)])[1]? = some { opcodes := "spc", devicetype := some 31, inquiries := 1 } := by
  decide

end C16
