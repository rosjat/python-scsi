import ScsiVerif.Lemmas.Layout
import ScsiVerif.Std.Cdb
import ScsiVerif.Gen.Commands
/-!
# C02 — CDB decoding is the exact inverse of CDB encoding

`marshall_cdb(d)`  = `encodeDict d layout (zeros L)`,  `unmarshall_cdb(b)` = `decodeBits b layout []`
(model of `SCSICommand.marshall_cdb` / `unmarshall_cdb`; `layout`/`L` are the class's `_cdb_bits` and CDB length).
The three laws are proved for **every** well-formed layout; `all_cdb_layouts_wf` shows, by kernel
evaluation on the regenerated tables, that every command class's CDB layout is well formed for the
CDB length SAM prescribes for its operation code.
-/
namespace C02
open Conv

/-- `Class.unmarshall_cdb(Class.marshall_cdb(d))` returns exactly the values of `d`: for all
in-range assignments to any set of the command's fields **simultaneously** (keys of the layout
that are not supplied decode to 0). -/
theorem decode_encode (layout : Layout) (L : Nat) (hwf : layout.wf L = true) (d : Dict)
    (hr : InRange layout d) (hk : KeysDistinct d) :
    ∃ cdb out, encodeDict d layout (zeros L) = .ok cdb ∧ cdb.length = L ∧
      decodeBits cdb layout [] = .ok out ∧
      (∀ k m off n, layoutGet? layout k = some (.bits m off) → (k, Val.int n) ∈ d →
          dictGet? out k = some (.int n)) ∧
      (∀ k m off, layoutGet? layout k = some (.bits m off) → (∀ kv ∈ d, kv.1 ≠ k) →
          dictGet? out k = some (.int 0)) ∧
      out.map (·.1) = layout.map (·.1) := by
  obtain ⟨r, h1, _, h3, _⟩ := encodeDict_zeros layout L hwf d hr
  refine ⟨r, decodedOf r layout, h1, h3, decodeBits_wf r layout L hwf, ?_, ?_, ?_⟩
  · intro k m off n hg hin
    rw [dictGet?_decodedOf r layout k _ hg]
    simp only [decodeField]
    rw [decode_encodeDict layout L hwf d hr hk r h1 k m off n hg hin]
  · intro k m off hg hout
    rw [dictGet?_decodedOf r layout k _ hg]
    simp only [decodeField]
    rw [decode_encodeDict_absent layout L hwf d hr r h1 k m off hg hout]
  · exact decodedOf_keys r layout

def UndefinedBitsZero (layout : Layout) (L : Nat) (b : Bytes) : Prop :=
  ∀ i, (baToInt b).testBit i = true →
    ∃ k m off, (k, FieldSpec.bits m off) ∈ layout ∧ lsbPos L m off ≤ i ∧ i < lsbPos L m off + maskWidth m

/-- `Class.marshall_cdb(Class.unmarshall_cdb(b))` reproduces `b` byte for byte, for every CDB byte
string of the right length whose undefined bits are zero. -/
theorem encode_decode (layout : Layout) (L : Nat) (hwf : layout.wf L = true) (b : Bytes)
    (hb : BytesOK b) (hl : b.length = L) (hz : UndefinedBitsZero layout L b) :
    ∃ out, decodeBits b layout [] = .ok out ∧ encodeDict out layout (zeros L) = .ok b := by
  refine ⟨decodedOf b layout, decodeBits_wf b layout L hwf, ?_⟩
  have hkd : KeysDistinct (decodedOf b layout) := Assoc.pairwise_of_keys (decodedOf_keys b layout) (wf_keys hwf)
  have hin : InRange layout (decodedOf b layout) := by
    intro kv hkv m off hg
    refine ⟨decodeMask b m off,
      Option.some.inj ((Assoc.find_of_mem hkd hkv).symm.trans (dictGet?_decodedOf b layout kv.1 _ hg)), ?_⟩
    rw [decodeMask_wf (wf_bitsWF hwf hg) hb hl]
    exact Nat.mod_lt _ (Nat.two_pow_pos _)
  rw [encodeDict_eq layout L hwf _ hin (zeros L) (zeros_ok L) (by simp [zeros]), baToInt_zeros, Nat.zero_xor,
    xorAll_rebuild (baToInt b) _ (termsOf_disj layout L hwf _ hkd), ← hl, intToBa_baToInt b hb]
  · intro t ht
    obtain ⟨_, _, _, _, rfl⟩ := (mem_termsOf_decodedOf hwf hb hl).mp ht
    rfl
  · intro i hi
    obtain ⟨k, m, off, hmem, h1, h2⟩ := hz i hi
    exact ⟨_, (mem_termsOf_decodedOf hwf hb hl).mpr ⟨k, m, off, hmem, rfl⟩, h1, h2⟩

/-- **Changing one field's value changes only that field's decoded value.** -/
theorem locality (layout : Layout) (L : Nat) (hwf : layout.wf L = true) (d d' : Dict)
    (hr : InRange layout d) (hk : KeysDistinct d) (hr' : InRange layout d') (hk' : KeysDistinct d')
    (f : String) (hsame : ∀ k v, k ≠ f → ((k, v) ∈ d ↔ (k, v) ∈ d')) :
    ∃ cdb cdb' out out', encodeDict d layout (zeros L) = .ok cdb ∧ encodeDict d' layout (zeros L) = .ok cdb' ∧
      decodeBits cdb layout [] = .ok out ∧ decodeBits cdb' layout [] = .ok out' ∧
      ∀ g m off n, g ≠ f → layoutGet? layout g = some (.bits m off) → (g, Val.int n) ∈ d →
        dictGet? out g = some (.int n) ∧ dictGet? out' g = some (.int n) := by
  obtain ⟨cdb, out, h1, _, h3, h4, _, _⟩ := decode_encode layout L hwf d hr hk
  obtain ⟨cdb', out', h1', _, h3', h4', _, _⟩ := decode_encode layout L hwf d' hr' hk'
  refine ⟨cdb, cdb', out, out', h1, h1', h3, h3', ?_⟩
  intro g m off n hne hg hin
  exact ⟨h4 g m off n hg hin, h4' g m off n hg ((hsame g (.int n) hne).mp hin)⟩

def stdLen (module cls : String) : Option Nat :=
  (Std.cdbs.find? (fun s => s.module == module && s.cls == cls)).bind (fun s => Std.samLen s.opcode)

/-- contiguous non-zero masks, inside the CDB, keys distinct, fields pairwise non-overlapping -/
def cdbLayoutOK (c : String × Cmd.CmdDesc × Bool × Bool) : Bool :=
  match stdLen c.1 c.2.1.cls with
  | some L => c.2.1.layout.wf L
  | none => false

theorem all_cdb_layouts_wf : Gen.commands.all cdbLayoutOK = true := by decide +kernel

theorem inRange_of_all {layout : Layout} {d : Dict}
    (h : d.all (fun kv => match layoutGet? layout kv.1, kv.2 with
      | some (.bits m _), .int n => decide (n < 2 ^ maskWidth m)
      | some (.bits _ _), _ => false
      | _, _ => true) = true) : InRange layout d := by
  intro kv hkv m off hg
  have := List.all_eq_true.mp h kv hkv
  rw [hg] at this
  split at this
  · rename_i m' _ n hm hv
    cases hm
    exact ⟨n, hv, of_decide_eq_true this⟩
  · cases this
  · rename_i h1 _
    exact absurd rfl (h1 m off)

example : (Gen.cmd_Read16.layout.wf 16 = true) ∧
    InRange Gen.cmd_Read16.layout [("lba", .int 0x1122334455667788), ("tl", .int 7), ("opcode", .int 0x88)] :=
  ⟨by decide +kernel, inRange_of_all (by decide +kernel)⟩

end C02
