import ScsiVerif.Props.C04
/-!
# C04 (continued) — MODE SENSE(6) / MODE SENSE(10): one mode page, any block descriptors in front of it

The header, BLOCK DESCRIPTOR LENGTH bytes of block descriptors skipped whatever their length, then one mode page in
page_0 or sub_page format.  `modePage_page0` says what the page decoder does after a page_0 header for every page
code; `modeSense6_of_page` / `modeSense10_of_page` wrap any page result into the response.
-/
namespace C04
open Conv PVal Std DataCompat DecL

attribute [local simp] enc_length

/-- The tables `MODESENSE6.*` or `MODESENSE10.*` (each class reads its own), with the facts the theorems need of them. -/
structure ModeTables where
  zero : Layout
  sub : Layout
  ea : Layout
  ctl : Layout
  ctl1 : Layout
  dr : Layout
  zero_c : compatible zero modePage0Header.rel 2 = true
  sub_c : compatible sub modeSubPageHeader.rel 4 = true
  ea_c : compatible ea modeElementAddress.rel 18 = true
  ctl_c : compatible ctl modeControl.rel 10 = true
  ctl1_c : compatible ctl1 modeControlExt.rel 28 = true
  dr_c : compatible dr modeDisconnect.rel 14 = true
  zero_pc : (match layoutGet? zero "page_code" with | some (.bits _ _) => true | _ => false) = true
  sub_pc : (match layoutGet? sub "page_code" with | some (.bits _ _) => true | _ => false) = true
  sub_sp : (match layoutGet? sub "sub_page_code" with | some (.bits _ _) => true | _ => false) = true
  zero_nosub : zero.all (fun kf => kf.1 != "sub_page_code") = true
  d_ea : keysDisjoint zero ea = true
  d_ctl : keysDisjoint zero ctl = true
  d_dr : keysDisjoint zero dr = true
  d_ctl1 : keysDisjoint sub ctl1 = true

def page0Body (T : ModeTables) (pc : Nat) : Option (Block × Layout) :=
  if pc = 0x1D then some (modeElementAddress, T.ea)
  else if pc = 0x0A then some (modeControl, T.ctl)
  else if pc = 0x02 then some (modeDisconnect, T.dr)
  else none

theorem modePage_page0 (T : ModeTables) (pv : Vals) (hp : InRangeD modePage0Header.rel pv) (hspf : pv "spf" = 0) (rest : Bytes) :
    Dec.modePage (modePage0Header.enc pv ++ rest) T.zero T.sub T.ea T.ctl T.ctl1 T.dr =
      match page0Body T (pv "page_code") with
      | some (_, lay) => decodeInto rest lay (reported T.zero pv)
      | none => .ok (reported T.zero pv) := by
  obtain ⟨x, hx, hxv⟩ := idx_bit modePage0Header (compatible_format T.zero_c) pv hp rest ⟨"spf", 0, 6, 1⟩ (by decide) rfl
  have hnosub : "sub_page_code" ∉ (reported T.zero pv).map (·.1) := reported_keys T.zero pv ▸ Assoc.not_mem_keys T.zero_nosub
  unfold Dec.modePage
  rw [hx, bind_ok, if_pos (by rw [show (0x40 : Nat) = 2 ^ 6 from rfl, hxv, hspf]; rfl),
    decodeInto_std_nil _ _ T.zero_c pv hp]
  simp only [bind_ok, pure, Except.pure]
  rw [getInt_reported _ pv _ T.zero_pc, bind_ok, get?_new _ _ hnosub, List.drop_left' (by simp [modePage0Header])]
  unfold page0Body
  -- left: the tree of the three tests `pc = 1Dh`, `pc = 0Ah`, `pc = 02h` on `reported T.zero pv`, each with `hasSub` false;
  -- the page code decides every test, and at most one step decodes
  by_cases h1 : pv "page_code" = 0x1D
  · simp [h1, Except.bind_ok_right]
  · by_cases h2 : pv "page_code" = 0x0A
    · simp [h2, Except.bind_ok_right]
    · by_cases h3 : pv "page_code" = 0x02 <;> simp [h1, h2, h3, Except.bind_ok_right]

theorem page0Body_c (T : ModeTables) (pc : Nat) (B : Block) (lay : Layout) (h : page0Body T pc = some (B, lay)) :
    compatible lay B.rel B.len = true ∧ keysDisjoint T.zero lay = true := by
  unfold page0Body at h
  split at h
  · cases h; exact ⟨T.ea_c, T.d_ea⟩
  split at h
  · cases h; exact ⟨T.ctl_c, T.d_ctl⟩
  split at h
  · cases h; exact ⟨T.dr_c, T.d_dr⟩
  · cases h

/-- page_0 format page whose parameters the library knows (Control 0Ah, Disconnect-Reconnect 02h,
    Element Address Assignment 1Dh): header fields and every parameter of the page -/
theorem modePage_page0_known (T : ModeTables) (pv bv : Vals) (B : Block) (lay : Layout)
    (hp : InRangeD modePage0Header.rel pv) (hspf : pv "spf" = 0) (hB : page0Body T (pv "page_code") = some (B, lay))
    (hb : InRangeD B.rel bv) (tr : Bytes) :
    Dec.modePage (encModePage0 pv (B.enc bv) ++ tr) T.zero T.sub T.ea T.ctl T.ctl1 T.dr =
      .ok (reported T.zero pv ++ reported lay bv) := by
  obtain ⟨hc, hd⟩ := page0Body_c T _ B lay hB
  rw [encModePage0, List.append_assoc, modePage_page0 T pv hp hspf, hB]
  exact decodeInto_std lay B hc bv hb tr _ (keysDisjoint_spec hd pv)

/-- page_0 format page with any other page code: the header fields, nothing invented from the body -/
theorem modePage_page0_other (T : ModeTables) (pv : Vals) (body : Bytes)
    (hp : InRangeD modePage0Header.rel pv) (hspf : pv "spf" = 0) (hB : page0Body T (pv "page_code") = none) (tr : Bytes) :
    Dec.modePage (encModePage0 pv body ++ tr) T.zero T.sub T.ea T.ctl T.ctl1 T.dr = .ok (reported T.zero pv) := by
  rw [encModePage0, List.append_assoc, modePage_page0 T pv hp hspf, hB]

/-- sub_page format, Control Extension page (0Ah / 01h): header fields and every parameter -/
theorem modePage_control_ext (T : ModeTables) (pv bv : Vals)
    (hp : InRangeD modeSubPageHeader.rel pv) (hspf : pv "spf" = 1) (hpc : pv "page_code" = 0x0A)
    (hsp : pv "sub_page_code" = 1) (hb : InRangeD modeControlExt.rel bv) (tr : Bytes) :
    Dec.modePage (encModeSubPage pv (modeControlExt.enc bv) ++ tr) T.zero T.sub T.ea T.ctl T.ctl1 T.dr =
      .ok (reported T.sub pv ++ reported T.ctl1 bv) := by
  obtain ⟨x, hx, hxv⟩ := idx_bit modeSubPageHeader (compatible_format T.sub_c) pv hp (modeControlExt.enc bv ++ tr) ⟨"spf", 0, 6, 1⟩ (by decide) rfl
  unfold Dec.modePage
  rw [encModeSubPage, List.append_assoc, hx, bind_ok,
    if_neg (by rw [show (0x40 : Nat) = 2 ^ 6 from rfl, hxv, hspf]; decide), decodeInto_std_nil _ _ T.sub_c pv hp]
  simp only [bind_ok, pure, Except.pure]
  rw [getInt_reported _ pv _ T.sub_pc, bind_ok, hpc, get?_reported _ pv _ T.sub_sp, List.drop_left' (by simp [modeSubPageHeader])]
  -- left: the same tree at page code 0Ah with `hasSub` true: only the middle step acts, and SUBPAGE CODE 1 selects `ctl1`
  simp [getInt_reported _ pv _ T.sub_sp, hsp, Except.bind_ok_right, bind_ok,
    decodeInto_std T.ctl1 modeControlExt T.ctl1_c bv hb tr _ (keysDisjoint_spec T.d_ctl1 pv)]

def T6 : ModeTables where
  zero := Gen.MODESENSE6_page_zero_bits
  sub := Gen.MODESENSE6_sub_page_bits
  ea := Gen.MODESENSE6_element_address_bits
  ctl := Gen.MODESENSE6_control_bits
  ctl1 := Gen.MODESENSE6_control_extension_1_bits
  dr := Gen.MODESENSE6_disconnect_reconnect_bits
  zero_c := by decide +kernel
  sub_c := by decide +kernel
  ea_c := by decide +kernel
  ctl_c := by decide +kernel
  ctl1_c := by decide +kernel
  dr_c := by decide +kernel
  zero_pc := by decide +kernel
  sub_pc := by decide +kernel
  sub_sp := by decide +kernel
  zero_nosub := by decide +kernel
  d_ea := by decide +kernel
  d_ctl := by decide +kernel
  d_dr := by decide +kernel
  d_ctl1 := by decide +kernel

def T10 : ModeTables where
  zero := Gen.MODESENSE10_page_zero_bits
  sub := Gen.MODESENSE10_sub_page_bits
  ea := Gen.MODESENSE10_element_address_bits
  ctl := Gen.MODESENSE10_control_bits
  ctl1 := Gen.MODESENSE10_control_extension_1_bits
  dr := Gen.MODESENSE10_disconnect_reconnect_bits
  zero_c := by decide +kernel
  sub_c := by decide +kernel
  ea_c := by decide +kernel
  ctl_c := by decide +kernel
  ctl1_c := by decide +kernel
  dr_c := by decide +kernel
  zero_pc := by decide +kernel
  sub_pc := by decide +kernel
  sub_sp := by decide +kernel
  zero_nosub := by decide +kernel
  d_ea := by decide +kernel
  d_ctl := by decide +kernel
  d_dr := by decide +kernel
  d_ctl1 := by decide +kernel

theorem hdr6_c : compatible Gen.MODESENSE6_mode_parameter_header_bits modeHeader6.rel 4 = true := tables_at 32
theorem hdr10_c : compatible Gen.MODESENSE10_mode_parameter_header_bits modeHeader10.rel 8 = true := tables_at 33

def ModeHdrOK (b : Block) (hv : Vals) (bd : Bytes) : Prop := InRangeD b.rel hv ∧ hv "block_descriptor_length" = bd.length

instance (b : Block) (hv : Vals) (bd : Bytes) : Decidable (ModeHdrOK b hv bd) := inferInstanceAs (Decidable (_ ∧ _))

theorem modeSense6_of_page (hv : Vals) (bd page tr : Bytes) (hh : ModeHdrOK modeHeader6 hv bd) (r : PDict)
    (hpage : Dec.modePage (page ++ tr) T6.zero T6.sub T6.ea T6.ctl T6.ctl1 T6.dr = .ok r) :
    Dec.modeSense6 (encModeSense6 hv bd page ++ tr) =
      .ok (.dict (reported Gen.MODESENSE6_mode_parameter_header_bits hv ++ [("mode_pages", .list [.dict r])])) := by
  dsimp only [T6] at hpage
  unfold Dec.modeSense6 encModeSense6
  simp only [List.append_assoc]
  rw [slice_head _ _ 4 (enc_length _ _), decodeInto_block _ modeHeader6 hdr6_c hv hh.1, bind_ok,
    idx_eq (byte_key modeHeader6 (compatible_format hdr6_c) hv hh.1 _ "block_descriptor_length" 3 (by decide)),
    bind_ok, hh.2, ← List.drop_drop, List.drop_left' (by simp [modeHeader6]), List.drop_left' rfl, hpage,
    bind_ok, set_reported _ _ _ _ (by decide)]
  rfl

theorem modeSense10_of_page (hv : Vals) (bd page tr : Bytes) (hh : ModeHdrOK modeHeader10 hv bd) (r : PDict)
    (hpage : Dec.modePage (page ++ tr) T10.zero T10.sub T10.ea T10.ctl T10.ctl1 T10.dr = .ok r) :
    Dec.modeSense10 (encModeSense10 hv bd page ++ tr) =
      .ok (.dict (reported Gen.MODESENSE10_mode_parameter_header_bits hv ++ [("mode_pages", .list [.dict r])])) := by
  dsimp only [T10] at hpage
  unfold Dec.modeSense10 encModeSense10
  simp only [List.append_assoc]
  rw [slice_head _ _ 8 (enc_length _ _), decodeInto_block _ modeHeader10 hdr10_c hv hh.1, bind_ok,
    b2i_slice_key modeHeader10 (compatible_format hdr10_c) hv hh.1 _ "block_descriptor_length" 6 2 (by decide),
    hh.2, ← List.drop_drop, List.drop_left' (by simp [modeHeader10]), List.drop_left' rfl, hpage,
    bind_ok, set_reported _ _ _ _ (by decide)]
  rfl

/-- **MODE SENSE(6)**, page_0 format page the library knows (02h, 0Ah, 1Dh): header, the block
    descriptors skipped whatever their length, every field of the page -/
theorem modeSense6_known_page (hv pv bv : Vals) (bd tr : Bytes) (B : Block) (lay : Layout) (hh : ModeHdrOK modeHeader6 hv bd)
    (hp : InRangeD modePage0Header.rel pv) (hspf : pv "spf" = 0) (hB : page0Body T6 (pv "page_code") = some (B, lay))
    (hb : InRangeD B.rel bv) :
    Dec.modeSense6 (encModeSense6 hv bd (encModePage0 pv (B.enc bv)) ++ tr) =
      .ok (.dict (reported Gen.MODESENSE6_mode_parameter_header_bits hv ++
        [("mode_pages", .list [.dict (reported T6.zero pv ++ reported lay bv)])])) :=
  modeSense6_of_page hv bd _ tr hh _ (modePage_page0_known T6 pv bv B lay hp hspf hB hb tr)

/-- MODE SENSE(6), page_0 format page with any other page code: header and the page's own header fields -/
theorem modeSense6_other_page (hv pv : Vals) (bd body tr : Bytes) (hh : ModeHdrOK modeHeader6 hv bd)
    (hp : InRangeD modePage0Header.rel pv) (hspf : pv "spf" = 0) (hB : page0Body T6 (pv "page_code") = none) :
    Dec.modeSense6 (encModeSense6 hv bd (encModePage0 pv body) ++ tr) =
      .ok (.dict (reported Gen.MODESENSE6_mode_parameter_header_bits hv ++
        [("mode_pages", .list [.dict (reported T6.zero pv)])])) :=
  modeSense6_of_page hv bd _ tr hh _ (modePage_page0_other T6 pv body hp hspf hB tr)

theorem modeSense6_control_ext (hv pv bv : Vals) (bd tr : Bytes) (hh : ModeHdrOK modeHeader6 hv bd)
    (hp : InRangeD modeSubPageHeader.rel pv) (hspf : pv "spf" = 1) (hpc : pv "page_code" = 0x0A)
    (hsp : pv "sub_page_code" = 1) (hb : InRangeD modeControlExt.rel bv) :
    Dec.modeSense6 (encModeSense6 hv bd (encModeSubPage pv (modeControlExt.enc bv)) ++ tr) =
      .ok (.dict (reported Gen.MODESENSE6_mode_parameter_header_bits hv ++
        [("mode_pages", .list [.dict (reported T6.sub pv ++ reported T6.ctl1 bv)])])) :=
  modeSense6_of_page hv bd _ tr hh _ (modePage_control_ext T6 pv bv hp hspf hpc hsp hb tr)

theorem modeSense10_known_page (hv pv bv : Vals) (bd tr : Bytes) (B : Block) (lay : Layout) (hh : ModeHdrOK modeHeader10 hv bd)
    (hp : InRangeD modePage0Header.rel pv) (hspf : pv "spf" = 0) (hB : page0Body T10 (pv "page_code") = some (B, lay))
    (hb : InRangeD B.rel bv) :
    Dec.modeSense10 (encModeSense10 hv bd (encModePage0 pv (B.enc bv)) ++ tr) =
      .ok (.dict (reported Gen.MODESENSE10_mode_parameter_header_bits hv ++
        [("mode_pages", .list [.dict (reported T10.zero pv ++ reported lay bv)])])) :=
  modeSense10_of_page hv bd _ tr hh _ (modePage_page0_known T10 pv bv B lay hp hspf hB hb tr)

theorem modeSense10_other_page (hv pv : Vals) (bd body tr : Bytes) (hh : ModeHdrOK modeHeader10 hv bd)
    (hp : InRangeD modePage0Header.rel pv) (hspf : pv "spf" = 0) (hB : page0Body T10 (pv "page_code") = none) :
    Dec.modeSense10 (encModeSense10 hv bd (encModePage0 pv body) ++ tr) =
      .ok (.dict (reported Gen.MODESENSE10_mode_parameter_header_bits hv ++
        [("mode_pages", .list [.dict (reported T10.zero pv)])])) :=
  modeSense10_of_page hv bd _ tr hh _ (modePage_page0_other T10 pv body hp hspf hB tr)

theorem modeSense10_control_ext (hv pv bv : Vals) (bd tr : Bytes) (hh : ModeHdrOK modeHeader10 hv bd)
    (hp : InRangeD modeSubPageHeader.rel pv) (hspf : pv "spf" = 1) (hpc : pv "page_code" = 0x0A)
    (hsp : pv "sub_page_code" = 1) (hb : InRangeD modeControlExt.rel bv) :
    Dec.modeSense10 (encModeSense10 hv bd (encModeSubPage pv (modeControlExt.enc bv)) ++ tr) =
      .ok (.dict (reported Gen.MODESENSE10_mode_parameter_header_bits hv ++
        [("mode_pages", .list [.dict (reported T10.sub pv ++ reported T10.ctl1 bv)])])) :=
  modeSense10_of_page hv bd _ tr hh _ (modePage_control_ext T10 pv bv hp hspf hpc hsp hb tr)

/-- the hypotheses are satisfiable: a Control page behind one 8-byte block descriptor -/
example : ∃ (hv pv bv : Vals) (bd : Bytes), ModeHdrOK modeHeader10 hv bd ∧ bd.length = 8 ∧ InRangeD modePage0Header.rel pv ∧
    pv "spf" = 0 ∧ page0Body T10 (pv "page_code") = some (modeControl, T10.ctl) ∧ InRangeD modeControl.rel bv ∧ bv "swp" = 1 := by
  refine ⟨fun k => if k = "block_descriptor_length" then 8 else if k = "mode_data_length" then 26 else 0,
          fun k => if k = "page_code" then 0x0A else if k = "page_length" then 10 else 0,
          fun k => if k = "swp" then 1 else 0, List.replicate 8 0x55, ?_, rfl, ?_, rfl, rfl, ?_, rfl⟩
  all_goals decide +kernel

end C04
