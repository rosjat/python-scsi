import ScsiVerif.Model.Exec
import ScsiVerif.Model.Facade
/-!
# C07 — a command that did not complete with GOOD status never looks successful
-/
namespace C07
open Exec Conv

theorem status_values :
    st "GOOD" = 0x00 ∧ st "CHECK_CONDITION" = 0x02 ∧ st "CONDITIONS_MET" = 0x04 ∧ st "BUSY" = 0x08 ∧
    st "RESERVATION_CONFLICT" = 0x18 ∧ st "TASK_SET_FULL" = 0x28 ∧ st "ACA_ACTIVE" = 0x30 ∧
    st "TASK_ABORTED" = 0x40 := by decide +kernel

/-- `CheckCondition(sense)` raises whatever the buffer (its own constructor may fail) -/
theorem raiseCheckCondition_raises (s : Option Bytes) : ∃ e, raiseCheckCondition s = .raised e := by
  unfold raiseCheckCondition
  split <;> exact ⟨_, rfl⟩

/-- `iscsi` with the status names resolved to their codes -/
theorem iscsi_eq (status : Nat) (ts ps : Option Bytes) (raw : Bool) :
    iscsi status ts ps raw =
      if status = 0x02 then
        ⟨raiseCheckCondition (ts.or ps), ts.or ps, if raw then ts.or ps else none, ts.or ps⟩
      else ⟨if status = 0x00 then .returned else .raised (iscsiErrName status), ps, none, none⟩ := by
  unfold iscsi
  rw [status_values.1, status_values.2.1]
  cases ts <;> rfl

theorem iscsiErrName_eq (status : Nat) :
    iscsiErrName status =
      if status = 0x18 then "ReservationConflict" else if status = 0x40 then "TaskAborted"
      else if status = 0x08 then "BusyStatus" else if status = 0x28 then "TaskSetFull"
      else if status = 0x30 then "ACAActive" else if status = 0x04 then "ConditionsMet" else "RuntimeError" := by
  obtain ⟨_, _, cm, b, rc, tsf, aca, ta⟩ := status_values
  unfold iscsiErrName
  rw [cm, b, rc, tsf, aca, ta]

/-- **returns normally only for GOOD**: for every status value, every sense, with and without raw sense -/
theorem iscsi_returns_only_good (status : Nat) (ts ps : Option Bytes) (raw : Bool)
    (h : (iscsi status ts ps raw).out = .returned) : status = 0x00 := by
  rw [iscsi_eq] at h
  split at h
  · obtain ⟨e, he⟩ := raiseCheckCondition_raises (ts.or ps)
    rw [he] at h; cases h
  · exact Decidable.by_contra fun h0 => by simp [h0] at h

/-- GOOD does return (the error path is not over-broad) -/
theorem iscsi_good_returns (ts ps : Option Bytes) (raw : Bool) : (iscsi 0x00 ts ps raw).out = .returned := by
  rw [iscsi_eq]; rfl

/-- **CHECK CONDITION surfaces as a CheckCondition error built from the sense the target sent now**
(never from an earlier command execution), and raw sense, when asked for, is that same buffer -/
theorem iscsi_check_condition (x : Nat) (xs : Bytes) (ps : Option Bytes) (raw : Bool) :
    let r := iscsi 0x02 (some (x :: xs)) ps raw
    r.out = .raised "CheckCondition" ∧ r.errSense = some (x :: xs) ∧ r.cmdSense = some (x :: xs) ∧
    r.rawSense = (if raw then some (x :: xs) else none) := by
  simp only [iscsi_eq]; exact ⟨rfl, rfl, rfl, rfl⟩

/-- even without usable sense a CHECK CONDITION is an error, never a success -/
theorem iscsi_check_condition_always_raises (ts ps : Option Bytes) (raw : Bool) :
    ∃ e, (iscsi 0x02 ts ps raw).out = .raised e := by
  rw [iscsi_eq]; exact raiseCheckCondition_raises _

/-- **each other status raises the error named after it**; everything else `RuntimeError` -/
theorem iscsi_named_errors (ts ps : Option Bytes) (raw : Bool) :
    (iscsi 0x04 ts ps raw).out = .raised "ConditionsMet" ∧ (iscsi 0x08 ts ps raw).out = .raised "BusyStatus" ∧
    (iscsi 0x18 ts ps raw).out = .raised "ReservationConflict" ∧ (iscsi 0x28 ts ps raw).out = .raised "TaskSetFull" ∧
    (iscsi 0x30 ts ps raw).out = .raised "ACAActive" ∧ (iscsi 0x40 ts ps raw).out = .raised "TaskAborted" := by
  simp [iscsi_eq, iscsiErrName_eq]

theorem iscsi_other_status (status : Nat) (ts ps : Option Bytes) (raw : Bool)
    (h : status ∉ [0x00, 0x02, 0x04, 0x08, 0x18, 0x28, 0x30, 0x40]) :
    (iscsi status ts ps raw).out = .raised "RuntimeError" := by
  simp only [List.mem_cons, List.mem_nil_iff, or_false, not_or] at h
  simp [iscsi_eq, iscsiErrName_eq, h]

/-- returns normally only for GOOD, or for CHECK CONDITION when the caller asked for raw sense —
and then the unmodified sense bytes are attached to the command -/
theorem sgio_returns (status : Nat) (sense : Option Bytes) (raw : Bool)
    (h : (sgio status sense raw).out = .returned) :
    status = 0x00 ∨ (status = 0x02 ∧ raw = true ∧ (sgio status sense raw).rawSense = sense) := by
  unfold sgio at h ⊢
  by_cases h0 : status = 0
  · exact Or.inl h0
  · by_cases h2 : status = 2
    · cases raw
      · simp only [h2, if_false, if_true, Bool.false_eq_true] at h
        obtain ⟨e, he⟩ := raiseCheckCondition_raises sense
        rw [he] at h; cases h
      · right; simp [h2]
    · simp [h0, h2] at h

theorem sgio_check_condition (x : Nat) (xs : Bytes) :
    (sgio 0x02 (some (x :: xs)) false).out = .raised "CheckCondition" ∧
    (sgio 0x02 (some (x :: xs)) false).errSense = some (x :: xs) := by
  simp [sgio, raiseCheckCondition]

theorem sgio_other_status (status : Nat) (sense : Option Bytes) (raw : Bool) (h0 : status ≠ 0) (h2 : status ≠ 2) :
    (sgio status sense raw).out = .raised "UnspecifiedError" := by
  simp [sgio, h0, h2]

/-- the outcome of the command at position `i` of any sequence over iSCSI is the outcome of that
command alone, whenever the target supplies sense with its CHECK CONDITIONs (earlier commands,
earlier executions of the same command object and their sense play no role) -/
theorem iscsi_sequence_independent (senses : List (Option Bytes)) (cmds : List (Nat × Nat × Option Bytes × Bool))
    (i : Nat) (k status : Nat) (ts : Option Bytes) (raw : Bool)
    (hi : cmds[i]? = some (k, status, ts, raw)) (hs : status = 0x02 → ts ≠ none) :
    ((iscsiSeq senses cmds)[i]?).map (·.out) = some (iscsi status ts none raw).out ∧
    ((iscsiSeq senses cmds)[i]?).map (·.errSense) = some (iscsi status ts none raw).errSense := by
  induction cmds generalizing senses i with
  | nil => simp at hi
  | cons c rest ih =>
    cases i with
    | zero =>
      cases Option.some.inj hi
      simp only [iscsiSeq, List.getElem?_cons_zero, Option.map_some, iscsi_eq]
      by_cases h2 : status = 2
      · obtain ⟨x, rfl⟩ := Option.ne_none_iff_exists'.mp (hs h2)
        simp [h2]
      · simp [h2]
    | succ j => exact ih _ j hi

theorem facade_passes_error_on (w : Bool) (u : Except PyErr Unit) (e : PyErr) :
    (Facade.run w (.ok ()) (.error e) u).outcome = .raised e ∧
    Facade.Ev.unmarshall ∉ (Facade.run w (.ok ()) (.error e) u).trace := by
  simp [Facade.run]

example : (iscsi 0x02 (some [0x72, 0x02, 0x04, 0x01]) (some [0x70, 0, 5]) false).errSense = some [0x72, 0x02, 0x04, 0x01] := by
  decide +kernel

end C07
