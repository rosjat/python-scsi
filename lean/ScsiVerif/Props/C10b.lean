import ScsiVerif.Props.C10
/-!
# C10 (continued) — order independence for layouts that mix bit fields and blobs

`C10.order_independent` covers layouts of bit fields.  Here: any layout whose entries lie inside the
buffer and whose **blob** entries (`'b'`, `'w'`, `'dw'`) share no byte with any other entry — bit
fields may share bytes among themselves.  For every dictionary with distinct keys, integer values
for bit fields (any size) and byte strings of the declared length for blobs, every permutation of
the dictionary encodes to the same bytes.

Method: every step of `encode_dict` is a *pointwise* update of the buffer (`new[j] = F j old[j]`);
pointwise updates compose pointwise, XOR updates commute with each other, and an update whose byte
range is disjoint from another's commutes with it.
-/
namespace Conv.C10

/-- the byte range `[lo, hi)` an entry touches -/
def FieldSpec.range (f : FieldSpec) : Nat × Nat :=
  match f with
  | .bits m off => (off, off + numBytes m)
  | .blob unit off len => (off, off + len * unit)

def isBlob : FieldSpec → Bool
  | .blob _ _ _ => true
  | .bits _ _ => false

def rangesDisjoint (a b : Nat × Nat) : Bool := decide (a.2 ≤ b.1) || decide (b.2 ≤ a.1)

/-- entries inside `L` bytes, no zero mask, distinct keys, every blob byte-disjoint from every other entry -/
def mixedWF (lay : Layout) (L : Nat) : Bool :=
  lay.all (fun kf => decide ((FieldSpec.range kf.2).2 ≤ L) && (match kf.2 with | .bits m _ => m != 0 | .blob _ _ _ => true)) &&
  pairwiseB (fun (a b : String × FieldSpec) => a.1 != b.1) lay &&
  pairwiseB (fun (a b : String × FieldSpec) => !(isBlob a.2 || isBlob b.2) || rangesDisjoint (FieldSpec.range a.2) (FieldSpec.range b.2)) lay

/-- the pointwise update a supplied `(key, value)` performs (`none`: the pair is outside the theorem's domain) -/
def updOf (lay : Layout) (kv : String × Val) : Option (Nat → Nat → Nat) :=
  match layoutGet? lay kv.1, kv.2 with
  | none, _ => some (fun _ x => x)
  | some (.bits m off), .int v =>
    some (fun j x => if off ≤ j ∧ j < off + numBytes m then x ^^^ ((intToBa (v <<< tz m) (numBytes m))[j - off]?.getD 0) else x)
  | some (.blob unit off len), .bytes b =>
    if b.length = len * unit then some (fun j x => if off ≤ j ∧ j < off + len * unit then b[j - off]?.getD 0 else x) else none
  | _, _ => none

/-- type-correct supplied values: integers for bit fields, byte strings of the declared length for blobs -/
def Typed (lay : Layout) (d : Dict) : Prop := ∀ kv ∈ d, (updOf lay kv).isSome

/-- the update of a pair (identity outside the domain; only used inside it) -/
def Fof (lay : Layout) (kv : String × Val) : Nat → Nat → Nat := (updOf lay kv).getD (fun _ x => x)

theorem mixedWF_entry {lay : Layout} {L : Nat} (h : mixedWF lay L = true) {k : String} {f : FieldSpec}
    (hg : layoutGet? lay k = some f) : (FieldSpec.range f).2 ≤ L ∧ (∀ m off, f = .bits m off → m ≠ 0) := by
  unfold mixedWF at h
  simp only [Bool.and_eq_true, List.all_eq_true, decide_eq_true_eq] at h
  have := h.1.1 (k, f) (Assoc.find_mem hg)
  refine ⟨this.1, ?_⟩
  intro m off hf
  have h2 := this.2
  rw [hf] at h2
  simpa using h2

theorem step_pw (lay : Layout) (L : Nat) (hwf : mixedWF lay L = true) (b : Bytes) (hl : b.length = L) (kv : String × Val)
    (ht : (updOf lay kv).isSome) : encodeDict [kv] lay b = (.ok (b.mapIdx (Fof lay kv)) : Except PyErr Bytes) := by
  obtain ⟨F, hF⟩ := Option.isSome_iff_exists.mp ht
  simp only [Fof, hF, Option.getD_some, encodeDict, List.foldlM_cons, List.foldlM_nil, bind_pure]
  unfold updOf at hF
  split at hF
  · rename_i hg
    cases hF
    rw [hg, mapIdx_eq_self fun _ _ _ => rfl]
  · rename_i m off v hg hv
    cases hF
    obtain ⟨hin, hnz⟩ := mixedWF_entry hwf hg
    simp only [hg, hv, encodeField, encodeMask, hnz m off rfl, if_false]
    rw [xorAt_mapIdx b _ off (by rw [intToBa_length, hl]; exact hin), intToBa_length]
  · rename_i unit off len bb hg hv
    split at hF
    · rename_i hbl
      cases hF
      obtain ⟨hin, _⟩ := mixedWF_entry hwf hg
      simp only [hg, hv, encodeField]
      rw [setSlice_mapIdx b off (len * unit) bb hbl (by rw [hl]; exact hin)]
    · cases hF
  · cases hF

theorem encodeDict_pw (lay : Layout) (L : Nat) (hwf : mixedWF lay L = true) (d : Dict) (ht : Typed lay d)
    (buf : Bytes) (hl : buf.length = L) :
    encodeDict d lay buf = .ok (d.foldl (fun b kv => b.mapIdx (Fof lay kv)) buf) := by
  induction d generalizing buf with
  | nil => rfl
  | cons kv d ih =>
    have hcons : encodeDict (kv :: d) lay buf = (encodeDict [kv] lay buf >>= fun b => encodeDict d lay b) := by
      simp only [encodeDict, List.foldlM_cons, List.foldlM_nil, bind_pure]
    rw [hcons, step_pw lay L hwf buf hl kv (ht kv (by simp))]
    exact ih (fun x hx => ht x (by simp [hx])) _ (by rw [List.length_mapIdx]; exact hl)

theorem mixedWF_keys {lay : Layout} {L : Nat} (h : mixedWF lay L = true) : lay.Pairwise (fun a b => a.1 ≠ b.1) := by
  unfold mixedWF at h
  simp only [Bool.and_eq_true] at h
  exact pairwiseB_keys h.1.2

theorem mixedWF_disj {lay : Layout} {L : Nat} (h : mixedWF lay L = true) {k1 k2 : String} {f1 f2 : FieldSpec}
    (h1 : layoutGet? lay k1 = some f1) (h2 : layoutGet? lay k2 = some f2) (hne : k1 ≠ k2)
    (hb : isBlob f1 = true ∨ isBlob f2 = true) :
    (FieldSpec.range f1).2 ≤ (FieldSpec.range f2).1 ∨ (FieldSpec.range f2).2 ≤ (FieldSpec.range f1).1 := by
  unfold mixedWF at h
  simp only [Bool.and_eq_true] at h
  have := Assoc.pairwise_forall (fun a b hab => by
      rwa [Bool.or_comm (isBlob b.2), rangesDisjoint, Bool.or_comm (decide _), ← rangesDisjoint])
    ((pairwiseB_iff _ _).mp h.2) (k1, f1) (Assoc.find_mem h1) (k2, f2) (Assoc.find_mem h2)
    (fun heq => hne (congrArg Prod.fst heq))
  have hb' : (isBlob f1 || isBlob f2) = true := by simpa using hb
  simpa only [hb', Bool.not_true, Bool.false_or, rangesDisjoint, Bool.or_eq_true, decide_eq_true_eq] using this

theorem Fof_outside (lay : Layout) (kv : String × Val) (f : FieldSpec) (hg : layoutGet? lay kv.1 = some f)
    (j x : Nat) (hj : j < (FieldSpec.range f).1 ∨ (FieldSpec.range f).2 ≤ j) : Fof lay kv j x = x := by
  unfold Fof updOf
  rw [hg]
  split
  · rename_i h; cases h
  · rename_i m off v hf _
    cases hf
    simp only [Option.getD_some, FieldSpec.range] at hj ⊢
    rw [if_neg (by omega)]
  · rename_i unit off len b hf _
    cases hf
    simp only [FieldSpec.range] at hj
    split
    · rw [Option.getD_some, if_neg (by omega)]
    · rfl
  · rfl

theorem Fof_bits (lay : Layout) (kv : String × Val) (m off : Nat) (hg : layoutGet? lay kv.1 = some (.bits m off)) :
    ∃ c : Nat → Nat, ∀ j x, Fof lay kv j x = x ^^^ c j := by
  unfold Fof updOf
  rw [hg]
  cases kv.2 with
  | bytes _ => exact ⟨fun _ => 0, fun j x => (Nat.xor_zero x).symm⟩
  | int v =>
    refine ⟨fun j => if off ≤ j ∧ j < off + numBytes m then (intToBa (v <<< tz m) (numBytes m))[j - off]?.getD 0 else 0,
      fun j x => ?_⟩
    simp only [Option.getD_some]
    split <;> simp

theorem Fof_comm (lay : Layout) (L : Nat) (hwf : mixedWF lay L = true) (a b : String × Val) (hne : a.1 ≠ b.1) (j x : Nat) :
    Fof lay b j (Fof lay a j x) = Fof lay a j (Fof lay b j x) := by
  cases hga : layoutGet? lay a.1 with
  | none => simp [Fof, updOf, hga]
  | some fa =>
    cases hgb : layoutGet? lay b.1 with
    | none => simp [Fof, updOf, hgb]
    | some fb =>
      -- a blob and another entry have disjoint byte ranges: at most one of the two acts on byte j
      have disj : isBlob fa = true ∨ isBlob fb = true →
          Fof lay b j (Fof lay a j x) = Fof lay a j (Fof lay b j x) := by
        intro hblob
        have hd := mixedWF_disj hwf hga hgb hne hblob
        by_cases hja : j < (FieldSpec.range fa).1 ∨ (FieldSpec.range fa).2 ≤ j
        · rw [Fof_outside lay a fa hga j x hja, Fof_outside lay a fa hga j _ hja]
        · have hjb : j < (FieldSpec.range fb).1 ∨ (FieldSpec.range fb).2 ≤ j := by omega
          rw [Fof_outside lay b fb hgb j _ hjb, Fof_outside lay b fb hgb j x hjb]
      cases fa with
      | blob _ _ _ => exact disj (Or.inl rfl)
      | bits ma oa =>
        cases fb with
        | blob _ _ _ => exact disj (Or.inr rfl)
        | bits mb ob =>
          -- two bit fields: XORs commute
          obtain ⟨ca, hca⟩ := Fof_bits lay a ma oa hga
          obtain ⟨cb, hcb⟩ := Fof_bits lay b mb ob hgb
          rw [hca, hcb, hca, hcb, Nat.xor_assoc, Nat.xor_comm (ca j), ← Nat.xor_assoc]

/-- **Order independence for layouts mixing bit fields and blobs.**  For a layout whose blobs share no byte with
any other entry, and every dictionary with distinct keys and type-correct values, every permutation of the
dictionary encodes to the same bytes (and the encoding succeeds). -/
theorem order_independent_mixed (lay : Layout) (L : Nat) (hwf : mixedWF lay L = true) (d d' : Dict)
    (hp : d.Perm d') (hk : KeysDistinct d) (ht : Typed lay d) (buf : Bytes) (hl : buf.length = L) :
    ∃ r, encodeDict d lay buf = .ok r ∧ encodeDict d' lay buf = .ok r := by
  have ht' : Typed lay d' := fun kv hkv => ht kv (hp.mem_iff.mpr hkv)
  refine ⟨_, encodeDict_pw lay L hwf d ht buf hl, ?_⟩
  rw [encodeDict_pw lay L hwf d' ht' buf hl]
  congr 1
  refine (hp.foldl_eq' (fun a ha b hb y => ?_) buf).symm
  by_cases hab : a = b
  · subst hab; rfl
  · have hne : a.1 ≠ b.1 := by
      unfold KeysDistinct at hk
      exact Assoc.pairwise_forall (fun _ _ h => fun e => h e.symm) hk a ha b hb hab
    rw [List.mapIdx_mapIdx, List.mapIdx_mapIdx]
    congr 1
    funext j x
    exact Fof_comm lay L hwf a b hne j x

/-- the hypotheses are satisfiable: two bit fields sharing byte 0, a `'w'` blob at a non-zero offset, a `'b'` blob -/
example : mixedWF [("a", .bits 0xF0 0), ("b", .bits 0x0F 0), ("w", .blob 2 2 2), ("s", .blob 1 6 3)] 10 = true ∧
    Typed [("a", .bits 0xF0 0), ("b", .bits 0x0F 0), ("w", .blob 2 2 2), ("s", .blob 1 6 3)]
      [("s", .bytes [1, 2, 3]), ("a", .int 9), ("w", .bytes [0xAA, 0xBB, 0xCC, 0xDD]), ("b", .int 5)] := by
  refine ⟨by decide +kernel, ?_⟩
  intro kv hkv
  simp only [List.mem_cons, List.not_mem_nil, or_false] at hkv
  rcases hkv with rfl | rfl | rfl | rfl <;> decide +kernel

end Conv.C10
