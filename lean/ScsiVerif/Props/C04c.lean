import ScsiVerif.Props.C04
/-!
# C04 (continued) — READ ELEMENT STATUS, whole response

Two nested loops with three length fields (BYTE COUNT OF REPORT AVAILABLE, BYTE COUNT OF DESCRIPTOR DATA
AVAILABLE, ELEMENT DESCRIPTOR LENGTH), optional volume tags announced by the page header and
type-dependent bits: for **all** page counts, descriptor counts, descriptor lengths, tag combinations
and values, with any trailing buffer space, the decoder model returns exactly what the device encoded.
-/
namespace C04
open Conv PVal Std DataCompat DecL Dec

attribute [local simp] enc_length Std.elementDescriptor Std.elementStatusPage Std.elementStatusHeader

theorem epage_c : compatible Gen.ReadElementStatus_element_status_page_bits elementStatusPage.rel 8 = true := tables_at 26
theorem ehdr_c : compatible Gen.ReadElementStatus_datain_bits elementStatusHeader.rel 8 = true := tables_at 27

def typeTable (ety : Nat) : Layout :=
  if ety = 4 then Gen.ReadElementStatus_data_transfer_descriptor_bits
  else if ety = 2 then Gen.ReadElementStatus_storage_descriptor_bits
  else if ety = 3 then Gen.ReadElementStatus_import_export_descriptor_bits
  else []

/-- The volume tags are set between the two tables: their keys must not be in the second. -/
theorem etype_c (ety : Nat) :
    compatible (Gen.ReadElementStatus_element_status_descriptor_bits ++ typeTable ety) elementDescriptor.rel 12 = true ∧
    ["primary_volume_tag", "alternate_volume_tag"].all (fun k => (typeTable ety).all (fun kf => kf.1 != k)) = true := by
  unfold typeTable
  split
  · exact ⟨tables_at 28, by decide⟩
  split
  · exact ⟨tables_at 29, by decide⟩
  split
  · exact ⟨tables_at 30, by decide⟩
  · exact ⟨tables_at 31, rfl⟩

theorem edesc_c : compatible Gen.ReadElementStatus_element_status_descriptor_bits elementDescriptor.rel 12 = true :=
  (compatible_append (etype_c 0).1).1

def tagsOf (pvol avol : Nat) (e : EDesc) : PDict :=
  (if pvol ≠ 0 then [("primary_volume_tag", PV.bytes e.2.1)] else []) ++
  (if avol ≠ 0 then [("alternate_volume_tag", PV.bytes e.2.2.1)] else [])

def edescReported (pvol avol ety : Nat) (e : EDesc) : PV :=
  .dict (reported Gen.ReadElementStatus_element_status_descriptor_bits e.1 ++ tagsOf pvol avol e ++ reported (typeTable ety) e.1)

/-- a volume tag is 36 bytes, present exactly when the page header says so; `edl` is ELEMENT DESCRIPTOR LENGTH -/
def EDescOK (pvol avol edl : Nat) (e : EDesc) : Prop :=
  InRangeD elementDescriptor.rel e.1 ∧ e.2.1.length = 36 * pvol ∧ e.2.2.1.length = 36 * avol ∧
  12 + 36 * pvol + 36 * avol + e.2.2.2.length = edl

theorem encEDesc_length (pvol avol edl : Nat) (e : EDesc) (h : EDescOK pvol avol edl e) :
    (encElementDescriptor e).length = edl := by
  have := h.2.1; have := h.2.2.1; have := h.2.2.2
  simp [encElementDescriptor]; omega

theorem tags_keys (pvol avol : Nat) (e : EDesc) :
    ∀ kv ∈ tagsOf pvol avol e, kv.1 ∈ ["primary_volume_tag", "alternate_volume_tag"] := by
  unfold tagsOf
  intro kv h
  rcases List.mem_append.mp h with h | h <;> split at h
  · rw [List.mem_singleton.mp h]; exact List.mem_cons_self
  · cases h
  · rw [List.mem_singleton.mp h]; exact List.mem_cons_of_mem _ List.mem_cons_self
  · cases h

theorem decodeInto_nil_layout (d : Bytes) (rr : PDict) : decodeInto d [] rr = .ok rr := by
  simp [decodeInto, decodeBits, bind, Except.bind, pure, Except.pure, ofDict, PDict.update]

/-- the three `if element_type == …` updates are one update with the table of that element type, the empty table for
    any other -/
theorem elementTypeFields_eq (d : Bytes) (ety : Nat) (rr : PDict) :
    Dec.elementTypeFields d ety rr = decodeInto d (typeTable ety) rr := by
  unfold Dec.elementTypeFields typeTable
  by_cases h4 : ety = 4
  · subst h4; simp only [Nat.reduceEqDiff, reduceIte, bind_pure]
  by_cases h2 : ety = 2
  · subst h2; simp only [Nat.reduceEqDiff, reduceIte, pure_bind, bind_pure]
  by_cases h3 : ety = 3
  · subst h3; simp only [Nat.reduceEqDiff, reduceIte, pure_bind, bind_pure]
  · simp only [if_neg h4, if_neg h2, if_neg h3, pure_bind, decodeInto_nil_layout]; rfl

theorem elementTypeFields_std (ety : Nat) (pvol avol : Nat) (e : EDesc) (hr : InRangeD elementDescriptor.rel e.1) (tail : Bytes) :
    Dec.elementTypeFields (elementDescriptor.enc e.1 ++ tail) ety
        (reported Gen.ReadElementStatus_element_status_descriptor_bits e.1 ++ tagsOf pvol avol e) =
      .ok (reported Gen.ReadElementStatus_element_status_descriptor_bits e.1 ++ tagsOf pvol avol e ++ reported (typeTable ety) e.1) := by
  obtain ⟨hc, htags⟩ := etype_c ety
  obtain ⟨_, hT, hd⟩ := compatible_append hc
  rw [elementTypeFields_eq]
  refine decodeInto_std (typeTable ety) elementDescriptor hT e.1 hr tail _ (fun k hk => ?_)
  rw [List.map_append, List.mem_append] at hk
  rcases hk with h | h
  · exact keysDisjoint_spec hd e.1 k h
  · obtain ⟨kv, hkv, rfl⟩ := List.mem_map.mp h
    exact Assoc.not_mem_keys (List.all_eq_true.mp htags _ (tags_keys pvol avol e kv hkv))

theorem elementTags_std (pvol avol : Nat) (hpv : pvol ≤ 1) (hav : avol ≤ 1) (e : EDesc) (hp : e.2.1.length = 36 * pvol)
    (ha : e.2.2.1.length = 36 * avol) (rest : Bytes) :
    Dec.elementTags (reported Gen.ReadElementStatus_element_status_descriptor_bits e.1) (e.2.1 ++ (e.2.2.1 ++ rest)) pvol avol =
      reported Gen.ReadElementStatus_element_status_descriptor_bits e.1 ++ tagsOf pvol avol e := by
  have s1 := fun x => set_reported Gen.ReadElementStatus_element_status_descriptor_bits e.1 "primary_volume_tag" x (by decide)
  have s2 := fun x => set_reported Gen.ReadElementStatus_element_status_descriptor_bits e.1 "alternate_volume_tag" x (by decide)
  have s3 := fun x y => set_new (reported Gen.ReadElementStatus_element_status_descriptor_bits e.1 ++ [("primary_volume_tag", y)])
    "alternate_volume_tag" x (by rw [List.map_append, reported_keys]; simp only [List.map_cons, List.map_nil]; decide)
  unfold Dec.elementTags tagsOf
  -- per case: an absent tag is the empty list (`hp`, `ha` at 0), `take 36` / `drop 36` cut off a tag that is present,
  -- and `set` on a new key appends (`s1`, `s2`; `s3` for the second tag after the first)
  rcases Nat.le_one_iff_eq_zero_or_eq_one.mp hpv with rfl | rfl <;>
  rcases Nat.le_one_iff_eq_zero_or_eq_one.mp hav with rfl | rfl
  · simp
  · simp [List.eq_nil_of_length_eq_zero hp, List.take_left' ha, s2]
  · simp [List.take_left' hp, s1]
  · simp [List.take_left' hp, List.drop_left' hp, List.take_left' ha, s1, s3]

theorem elementDescriptors_step (pvol avol ety edl : Nat) (hpv : pvol ≤ 1) (hav : avol ≤ 1) (e : EDesc) (rest : Bytes)
    (h : EDescOK pvol avol edl e) :
    Dec.elementDescriptors (encElementDescriptor e ++ rest) edl pvol avol ety =
      (Dec.elementDescriptors rest edl pvol avol ety).map (edescReported pvol avol ety e :: ·) := by
  have hlen := encEDesc_length pvol avol edl e h
  have := h.2.2.2
  rw [Dec.elementDescriptors, dif_neg (by rw [List.length_append, hlen]; omega), List.drop_left' hlen]
  unfold Dec.elementDescriptor encElementDescriptor
  simp only [List.append_assoc]
  rw [decodeInto_std_nil _ _ edesc_c e.1 h.1, bind_ok, List.drop_left' (by simp),
    elementTags_std pvol avol hpv hav e h.2.1 h.2.2.1, elementTypeFields_std ety pvol avol e h.1]
  cases Dec.elementDescriptors rest edl pvol avol ety <;> rfl

theorem elementDescriptors_std (pvol avol ety edl : Nat) (hpv : pvol ≤ 1) (hav : avol ≤ 1) (es : List EDesc)
    (h : ∀ e ∈ es, EDescOK pvol avol edl e) :
    Dec.elementDescriptors (es.map encElementDescriptor).flatten edl pvol avol ety =
      .ok (es.map (edescReported pvol avol ety)) :=
  loop_std encElementDescriptor _ _ (fun d => Dec.elementDescriptors d edl pvol avol ety)
    (by unfold Dec.elementDescriptors; simp) (elementDescriptors_step pvol avol ety edl hpv hav) es h

def EPageOK (p : EPage) : Prop :=
  InRangeD elementStatusPage.rel p.1 ∧
  p.1 "byte_count" = p.1 "element_descriptor_length" * p.2.length ∧
  ∀ e ∈ p.2, EDescOK (p.1 "pvoltag") (p.1 "avoltag") (p.1 "element_descriptor_length") e

def epageReported (p : EPage) : PV :=
  .dict (reported Gen.ReadElementStatus_element_status_page_bits p.1 ++
    [("element_descriptors", .list (p.2.map (edescReported (p.1 "pvoltag") (p.1 "avoltag") (p.1 "element_type"))))])

theorem encEPage_length (p : EPage) (h : EPageOK p) : (encElementPage p).length = 8 + p.1 "byte_count" := by
  rw [encElementPage, List.length_append, items_length _ _ p.2 (fun e he => encEDesc_length _ _ _ e (h.2.2 e he)), h.2.1]
  simp

theorem elementPage_std (p : EPage) (h : EPageOK p) (rest : Bytes) :
    Dec.elementPage (elementStatusPage.enc p.1 ++ ((p.2.map encElementDescriptor).flatten ++ rest)) (p.1 "byte_count")
        (p.1 "element_descriptor_length") =
      .ok (reported Gen.ReadElementStatus_element_status_page_bits p.1 ++
        [("element_descriptors", .list (p.2.map (edescReported (p.1 "pvoltag") (p.1 "avoltag") (p.1 "element_type"))))]) := by
  unfold Dec.elementPage
  rw [decodeInto_std_nil _ _ epage_c p.1 h.1, bind_ok,
    getInt_reported _ p.1 "pvoltag" (by decide), bind_ok, getInt_reported _ p.1 "avoltag" (by decide), bind_ok,
    getInt_reported _ p.1 "element_type" (by decide), bind_ok,
    slice_at _ _ _ 8 _ (by simp) (by rw [items_length _ _ p.2 (fun e he => encEDesc_length _ _ _ e (h.2.2 e he)), h.2.1]),
    elementDescriptors_std _ _ _ _ (Nat.le_of_lt_succ (inRange_key h.1 "pvoltag" 1 (by decide)))
      (Nat.le_of_lt_succ (inRange_key h.1 "avoltag" 1 (by decide))) p.2 h.2.2,
    bind_ok, set_reported _ _ _ _ (by decide)]
  rfl

theorem elementPages_step (p : EPage) (rest : Bytes) (h : EPageOK p) :
    Dec.elementPages (encElementPage p ++ rest) = (Dec.elementPages rest).map (epageReported p :: ·) := by
  have hlen := encEPage_length p h
  have hf := compatible_format epage_c
  have e : encElementPage p ++ rest = elementStatusPage.enc p.1 ++ ((p.2.map encElementDescriptor).flatten ++ rest) := by
    rw [encElementPage, List.append_assoc]
  -- the two fields are read in facts of their own: rewriting them in place, under the unfolded page, overflows the kernel's stack
  have hbc : b2i (slice (encElementPage p ++ rest) 5 8) = p.1 "byte_count" := by
    rw [e]; exact b2i_slice_key elementStatusPage hf p.1 h.1 _ "byte_count" 5 3 (by decide)
  have hedl : b2i (slice (encElementPage p ++ rest) 2 4) = p.1 "element_descriptor_length" := by
    rw [e]; exact b2i_slice_key elementStatusPage hf p.1 h.1 _ "element_descriptor_length" 2 2 (by decide)
  rw [Dec.elementPages, dif_neg (by rw [List.length_append, hlen]; omega), hbc, hedl, List.drop_left' hlen, e,
    elementPage_std p h rest]
  cases Dec.elementPages rest <;> rfl

theorem elementPages_std (ps : List EPage) (h : ∀ p ∈ ps, EPageOK p) :
    Dec.elementPages (ps.map encElementPage).flatten = .ok (ps.map epageReported) :=
  loop_std _ _ _ Dec.elementPages (by unfold Dec.elementPages; simp) elementPages_step ps h

def epagesLen (ps : List EPage) : Nat := ps.foldr (fun p acc => 8 + p.1 "byte_count" + acc) 0

/-- **READ ELEMENT STATUS**: header, every element status page inside BYTE COUNT OF REPORT AVAILABLE, every
    element descriptor inside each page's byte count — whole (fixed fields, the volume tags the page
    header announces, the type-specific bits), in order; nothing beyond the reported lengths -/
theorem readElementStatus_decodes (hv : Vals) (ps : List EPage) (hh : InRangeD elementStatusHeader.rel hv)
    (hbc : hv "byte_count" = epagesLen ps) (h : ∀ p ∈ ps, EPageOK p) (tr : Bytes) :
    Dec.readElementStatus (encReadElementStatus hv ps ++ tr) =
      .ok (.dict (reported Gen.ReadElementStatus_datain_bits hv ++ [("element_status_pages", .list (ps.map epageReported))])) := by
  unfold Dec.readElementStatus encReadElementStatus
  rw [List.append_assoc,
    b2i_slice_key elementStatusHeader (compatible_format ehdr_c) hv hh _ "byte_count" 5 3 (by decide),
    decodeInto_std_nil _ _ ehdr_c hv hh, bind_ok]
  dsimp only
  rw [slice_at _ _ _ 8 _ (by simp) (by rw [flatten_length _ _ ps (fun p hp => encEPage_length p (h p hp)), hbc]; rfl),
    elementPages_std ps h, bind_ok,
    set_reported _ _ _ _ (by decide)]
  rfl

/-- the hypotheses are satisfiable: one storage page (AVOLTAG only, 52-byte descriptors, two of them) -/
example : ∃ (hv : Vals) (ps : List EPage), ps.length = 1 ∧ InRangeD elementStatusHeader.rel hv ∧
    hv "byte_count" = epagesLen ps ∧ ∀ p ∈ ps, EPageOK p := by
  let pv : Vals := fun k => if k = "element_type" then 2 else if k = "avoltag" then 1 else
    if k = "element_descriptor_length" then 52 else if k = "byte_count" then 104 else 0
  let e1 : EDesc := (fun k => if k = "element_address" then 1000 else if k = "full" then 1 else 0, [], List.replicate 36 0x41, [0, 0, 0, 0])
  let e2 : EDesc := (fun k => if k = "element_address" then 1001 else 0, [], List.replicate 36 0x42, [0, 0, 0, 0])
  exact ⟨fun k => if k = "byte_count" then 112 else if k = "num_elements" then 2 else 1000, [(pv, [e1, e2])], rfl,
    by decide +kernel, rfl, by unfold EPageOK EDescOK; decide +kernel⟩

end C04
