import ScsiVerif.Lemmas.Build
import ScsiVerif.Model.Xfer
import ScsiVerif.Gen.Commands
/-!
# C03 — data buffers match the transfer the CDB announces

`Cmd.build` (interpreting the regenerated constructor descriptions) allocates
`dataout = bytearray(dataoutLen)` / `datain = bytearray(datainLen)` and optionally overrides
`dataout`.  `Xfer.xferOK` is decided per command on Gen; the theorems below turn it into the
buffer lengths the standard's transfer rule prescribes, for **all** argument values.  That the
length arguments are what the CDB's ALLOCATION LENGTH / TRANSFER LENGTH / PARAMETER LIST LENGTH
fields carry is C01 (`cdb_meets_standard`).
-/
namespace C03
open Conv Cmd Std Xfer

@[simp] theorem truthy_bool (b : Bool) : (PVal.bool b).truthy = b := rfl

theorem eval_unless {op : OpCode} {env : Env} {flag data : String} {fv pv : PVal}
    (hf : env.get? flag = some fv) (hp : env.get? data = some pv) :
    eval op env (.ite (.not (.param flag)) (.param data)
      (.zeros (.ite (.param flag) (.lit 0) (.param "blocksize"))))
    = .ok (if fv.truthy then .bytes [] else pv) := by
  simp only [eval, hf, hp, bind, Except.bind, truthy_bool]
  cases h : fv.truthy <;> simp [zeros]

/-- **Buffers are what the transfer rule says**, for every rule except the parameter-list and ATA
rules (next theorems): if the constructor succeeds, `dataout` and `datain` are exactly the
prescribed buffers — in particular both empty for commands without a data phase. -/
theorem buffers_match (d : CmdDesc) (rule : Xfer) (hok : xferOK d rule = true)
    (op : OpCode) (args env : Env) (c : Command) (hb : build d op args = .ok c)
    (henv : bindArgs args d.params = .ok env) (o : PVal) (n : Nat) (hexp : expected env rule = some (o, n)) :
    c.dataout = o ∧ c.datain = zeros n := by
  have b := Built.of_env hb henv
  -- per rule: what `xferOK` fixes of the description, and what `expected` supplies (`none` for `paramList` and `ata`:
  -- these two cases close here)
  cases rule <;>
    simp only [xferOK, expected, Bool.and_eq_true, beq_iff_eq, bind, pure, Option.bind_eq_some_iff,
      Option.map_eq_some_iff, Option.some.injEq, Prod.mk.injEq, reduceCtorEq] at hok hexp
  case noData =>
    obtain ⟨⟨ho, hi⟩, hs⟩ := hok
    obtain ⟨rfl, rfl⟩ := hexp
    exact ⟨b.dataout_empty hs ho, b.datain_zeros hi rfl rfl⟩
  case allocIn p =>
    obtain ⟨⟨ho, hi⟩, hs⟩ := hok
    obtain ⟨k, ⟨pv, hp, ha⟩, rfl, rfl⟩ := hexp
    exact ⟨b.dataout_empty hs ho, b.datain_zeros hi (eval_param hp) (allocLen_of_asInt ha)⟩
  case blocksIn tl =>
    obtain ⟨⟨ho, hi⟩, hs⟩ := hok
    obtain ⟨bs, ⟨bv, hb1, hb2⟩, t, ⟨tv, ht1, ht2⟩, rfl, rfl⟩ := hexp
    exact ⟨b.dataout_empty hs ho, b.datain_zeros hi (eval_mul (eval_param hb1) (eval_param ht1) hb2 ht2) rfl⟩
  case dataOut data =>
    obtain ⟨hi, hs⟩ := hok
    obtain ⟨pv, hp, rfl, rfl⟩ := hexp
    exact ⟨b.dataout_eq hs (eval_param hp), b.datain_zeros hi rfl rfl⟩
  case dataOutUnless data flag =>
    obtain ⟨hi, hs⟩ := hok
    obtain ⟨fv, hf, pv, hp, hexp⟩ := hexp
    -- `expected` and the constructor branch on the flag alike
    obtain ⟨rfl, rfl⟩ : (if fv.truthy then .bytes [] else pv) = o ∧ 0 = n := by
      revert hexp
      cases fv.truthy <;> exact Prod.mk.inj
    exact ⟨b.dataout_eq hs (eval_unless hf hp), b.datain_zeros hi rfl rfl⟩
  case readCd tl =>
    obtain ⟨⟨ho, hi⟩, hs⟩ := hok
    obtain ⟨t, ⟨tv, ht1, ht2⟩, rfl, rfl⟩ := hexp
    exact ⟨b.dataout_empty hs ho, b.datain_zeros hi (eval_mul (eval_param ht1) rfl ht2 rfl) rfl⟩

/-- **Parameter-list commands**: `dataout` is the marshalled list itself (the value the constructor
computed), `datain` is empty.  That PARAMETER LIST LENGTH in the CDB equals its length is C01
(source `.paramListLen`). -/
theorem param_list_buffers (d : CmdDesc) (hok : xferOK d .paramList = true)
    (op : OpCode) (args env : Env) (c : Command) (hb : build d op args = .ok c)
    (henv : bindArgs args d.params = .ok env) :
    c.datain = [] ∧ ∃ x, d.dataoutSet = some (.param x) ∧ env.get? x = some c.dataout := by
  have b := Built.of_env hb henv
  simp only [xferOK, Bool.and_eq_true, beq_iff_eq] at hok
  obtain ⟨hi, hs⟩ := hok
  refine ⟨b.datain_zeros hi rfl rfl, ?_⟩
  split at hs
  · rename_i x hset
    have := b.dataout_set _ hset
    simp only [eval] at this
    split at this
    · rename_i v hv
      exact ⟨x, hset, hv.trans (congrArg some (Except.ok.inj this))⟩
    · cases this
  · cases hs

/-- the block size the constructor multiplies by is SAT's unit; with T_LENGTH = 0 nothing is transferred -/
theorem ataBlock_eq {tLength byteBlock tType blocksize b : Nat} (h : ataBlock tLength byteBlock tType blocksize = .ok b) :
    b = if tLength = 0 then 0 else if byteBlock = 0 then 1 else if tType = 0 then 512 else blocksize := by
  unfold ataBlock at h
  by_cases h0 : tLength = 0
  · simp [h0] at h; simp [h0, h]
  · by_cases hbb : byteBlock = 0
    · simp [h0, hbb] at h; simp [h0, hbb, h]
    · by_cases htt : tType = 0
      · simp [h0, hbb, htt] at h; simp [h0, hbb, htt, h]
      · by_cases hbs : blocksize = 0
        · simp [h0, hbb, htt, hbs] at h
        · simp [h0, hbb, htt, hbs] at h; simp [h0, hbb, htt, h]

/-- … and the count it multiplies is SAT's count: the product is `ataBytes` -/
theorem ataBytes_eq {tLength byteBlock tType fetures count blocksize b : Nat} {extraTl : Option Nat}
    (h : ataBlock tLength byteBlock tType blocksize = .ok b) (htl : tLength ≤ 3) :
    ataBytes tLength byteBlock tType fetures count blocksize extraTl = ataTl tLength fetures count extraTl * b := by
  rw [ataBlock_eq h]
  have hcases : tLength = 0 ∨ tLength = 1 ∨ tLength = 2 ∨ tLength = 3 := by omega
  rcases hcases with rfl | rfl | rfl | rfl <;> simp [ataBytes, ataTl]

/-- without caller-supplied data the buffer in the direction T_DIR selects has exactly the number
of bytes SAT derives from T_LENGTH / BYTE_BLOCK / T_TYPE (512-byte blocks, logical sectors, bytes),
the other buffer is empty; for all values of all arguments. -/
theorem ata_buffers (tLength byteBlock tDir tType fetures count blocksize : Nat) (extraTl : Option Nat)
    (dout din : Bytes)
    (h : ataBuffers tLength byteBlock tDir tType fetures count blocksize extraTl none = .ok (dout, din))
    (htl : tLength ≤ 3) :
    let n := ataBytes tLength byteBlock tType fetures count blocksize extraTl
    (tDir = 0 → dout = zeros n ∧ din = []) ∧ (tDir ≠ 0 → dout = [] ∧ din = zeros n) := by
  unfold ataBuffers at h
  cases hb : ataBlock tLength byteBlock tType blocksize with
  | error e => simp [hb] at h
  | ok b =>
    simp only [hb, Except.ok.injEq, Prod.mk.injEq] at h
    rw [ataBytes_eq hb htl]
    obtain ⟨rfl, rfl⟩ := h
    by_cases hd : tDir = 0 <;> simp [hd]

/-- caller-supplied (non-empty) data replaces the buffer in the direction T_DIR selects -/
theorem ata_data (tLength byteBlock tDir tType fetures count blocksize : Nat) (extraTl : Option Nat)
    (x : Nat) (xs dout din : Bytes)
    (h : ataBuffers tLength byteBlock tDir tType fetures count blocksize extraTl (some (x :: xs)) = .ok (dout, din)) :
    (tDir = 0 → dout = x :: xs) ∧ (tDir ≠ 0 → din = x :: xs) := by
  unfold ataBuffers at h
  cases hb : ataBlock tLength byteBlock tType blocksize with
  | error e => simp [hb] at h
  | ok b =>
    simp only [hb] at h
    by_cases hd : tDir = 0
    · simp [hd] at h ⊢; exact h.1.symm
    · simp [hd] at h ⊢; exact h.2.symm

theorem iscsi_read (n : Nat) (hn : n ≠ 0) : iscsiXfer 0 n = (.read, n) := by simp [iscsiXfer, hn]
theorem iscsi_write (m n : Nat) (hm : m ≠ 0) : iscsiXfer m n = (.write, m) := by
  simp [iscsiXfer, hm]
theorem iscsi_none : iscsiXfer 0 0 = (.none, 0) := by simp [iscsiXfer]

def ruleOf (module cls : String) : Option Xfer :=
  (Std.xfers.find? (fun r => r.1 == module && r.2.1 == cls)).map (·.2.2)

def cmdXferOK (c : String × CmdDesc × Bool × Bool) : Bool :=
  match ruleOf c.1 c.2.1.cls with
  | some r => xferOK c.2.1 r
  | none => false

/-- the ALLOCATION LENGTH / TRANSFER LENGTH argument named by the rule is the one the CDB field
of that name carries (so "buffer length = field value" follows from C01) -/
def ruleFieldOK (r : String × String × Xfer) : Bool :=
  match Std.cdbs.find? (fun s => s.module == r.1 && s.cls == r.2.1) with
  | none => false
  | some s =>
    match r.2.2 with
    | .allocIn p => r.2.1 == "ReadCapacity10" ||
        s.fields.any (fun g => g.name == "ALLOCATION LENGTH" && g.src == .arg p)
    | .blocksIn tl => s.fields.any (fun g => g.name == "TRANSFER LENGTH" && g.src == .arg tl)
    | .readCd tl => s.fields.any (fun g => g.name == "TRANSFER LENGTH" && g.src == .arg tl)
    | .paramList => s.fields.any (fun g => g.name == "PARAMETER LIST LENGTH" && g.src == .paramListLen)
    | _ => true

/-- Both obligations walk `Std.xfers` and look commands up by module and class. -/
theorem decided : Gen.commands.all cmdXferOK = true ∧ Std.xfers.all ruleFieldOK = true := by decide +kernel

theorem all_commands_allocate_by_rule : Gen.commands.all cmdXferOK = true := decided.1

theorem rules_name_cdb_fields : Std.xfers.all ruleFieldOK = true := decided.2

example : xferOK Gen.cmd_Read16 (.blocksIn "tl") = true ∧
    expected [("blocksize", .int 512), ("tl", .int 5)] (.blocksIn "tl") = some (.bytes [], 2560) := by
  decide +kernel

end C03
