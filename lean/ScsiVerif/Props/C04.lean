import ScsiVerif.Lemmas.Decode
import ScsiVerif.Gen.Enums
import ScsiVerif.Std.DataIn2
/-!
# C04 — well-formed device responses are decoded to the values the device sent

`Std/DataIn.lean` states the response formats as the standards do (byte, msb, width; length fields
`n−3`, `n−7`).  `Dec.*` (Model/Formats/Decode.lean) mirrors the library's `unmarshall_datain`
routines line by line and reads the layout tables regenerated from the source (`Gen.*`).

* `all_response_tables_conform`: every row of `Std.blocks` — a block of the standard and the library table
  that decodes it — is compatible (`DataCompat.compatible_sound` turns that into "`decode_bits` returns the
  device's values, whatever follows the structure").  Five tables the parsers read are in no row, because
  `Std/DataIn.lean` leaves their formats out: `Inquiry._ata_information_bits`, `_ata_signature_bits`,
  `_ata_identify_bits`, `_ata_identify_gen_conf_bits` and `_pci_express_routing_id_bits` are tied by the
  correspondence check only.
* `tables_conform`: the same obligation for the tables as the decoder theorems use them, under their `Gen`
  constants and concatenated where a decoder applies several to one structure; a row is taken where it is used, `tables_at i` beside the
  names of table and block (the kernel checks that row `i` is that pair), and has a name `…_c` when it is used more than once
  (the mode page tables of MODE SENSE(6)/(10) carry their facts as fields of `ModeTables`).
* one theorem per response format: for **all** in-range field values, **all** descriptor counts
  that fit the length field, with and without trailing buffer space, the decoder returns exactly
  the values the device encoded, every descriptor inside the reported length whole and in order,
  nothing beyond it.  In the files that continue this one the blocks a file concatenates are local simp
  lemmas: the lengths of the pieces are side conditions closed by `simp`, and with the blocks unfolded
  `Block.len` is a numeral.
-/
namespace C04
open Conv PVal Std DataCompat DecL Dec

attribute [local simp] toBytes_length

def lookupT (c a : String) : Option Layout := (Gen.allTables.find? (fun t => t.1 == c && t.2.1 == a)).map (·.2.2)

def blockOK (x : Block × String × String) : Bool :=
  match lookupT x.2.1 x.2.2 with
  | some lay => compatible lay x.1.rel x.1.len
  | none => false

/-- A structure that is read through several tables, one after the other, has their concatenation:
    `compatible_append` splits it, so the standard's format is checked once and the tables' keys are disjoint for free.
    Rows are used by position (`tables_at`, the number at the end of a line is that of its first row), so a new row
    goes at the end. -/
def tables : List (Block × Layout) := [
  (readCapacity10, Gen.ReadCapacity10_datain_bits), (readCapacity16, Gen.ReadCapacity16_datain_bits),   -- 0
  (inquiryStandard, Gen.Inquiry_datain_bits ++ Gen.Inquiry_standard_bits),   -- 2
  (prReadReservation, Gen.PersistentReserveInReadReservation_bits),   -- 3
  (Std.discInfoStandard, Gen.ReadDiscInformation_sdi_bits), (Std.discInfoTrack, Gen.ReadDiscInformation_tri_bits),   -- 4
  (Std.discInfoPow, Gen.ReadDiscInformation_pow_bits),   -- 6
  (lbaStatusDescriptor, Gen.GetLBAStatus_datain_bits), (lunEntry, Gen.ReportLuns_datain_bits),   -- 7
  -- C04vpd
  (vpdHeader, Gen.Inquiry_datain_bits ++ Gen.Inquiry_pagecode_bits),   -- 9
  (vpdBlockLimits, Gen.Inquiry_datain_bits ++ Gen.Inquiry_pagecode_bits ++ Gen.Inquiry_block_limits_bits),   -- 10
  (vpdBlockDevChar, Gen.Inquiry_datain_bits ++ Gen.Inquiry_pagecode_bits ++ Gen.Inquiry_block_dev_char_bits),   -- 11
  (vpdLbp, Gen.Inquiry_datain_bits ++ Gen.Inquiry_pagecode_bits ++ Gen.Inquiry_logical_block_provisioning_bits),   -- 12
  (vpdReferrals, Gen.Inquiry_datain_bits ++ Gen.Inquiry_pagecode_bits ++ Gen.Inquiry_referrals_bits),   -- 13
  (vpdExtended, Gen.Inquiry_datain_bits ++ Gen.Inquiry_pagecode_bits ++ Gen.Inquiry_extended_bits),   -- 14
  (naaIeeeExtended, Gen.Inquiry_naa_type_bits ++ Gen.Inquiry_naa_ieee_extended_bits),   -- 15
  (naaLocallyAssigned, Gen.Inquiry_naa_type_bits ++ Gen.Inquiry_naa_locally_assigned_bits),   -- 16
  (naaIeeeRegistered, Gen.Inquiry_naa_type_bits ++ Gen.Inquiry_naa_ieee_registered_bits),   -- 17
  (naaIeeeRegisteredExtended, Gen.Inquiry_naa_type_bits ++ Gen.Inquiry_naa_ieee_registered_extended_bits),   -- 18
  (relativePortDesignator, Gen.Inquiry_relative_port_bits), (targetPortGroupDesignator, Gen.Inquiry_target_portal_group_bits),   -- 19
  (logicalUnitGroupDesignator, Gen.Inquiry_logical_unit_group_bits), (Std.designationDescriptor, Gen.Inquiry_designator_bits),   -- 21
  -- C04b
  (priorityDescriptor, Gen.ReportPriority_data_bits), (tpgDescriptor, Gen.ReportTargetPortGroups_tpgd_bits),   -- 23
  (rtpgExtHeader, Gen.ReportTargetPortGroups_ext_hdr_bits),   -- 25
  -- C04c
  (elementStatusPage, Gen.ReadElementStatus_element_status_page_bits), (elementStatusHeader, Gen.ReadElementStatus_datain_bits),   -- 26
  (Std.elementDescriptor, Gen.ReadElementStatus_element_status_descriptor_bits ++ Gen.ReadElementStatus_data_transfer_descriptor_bits),   -- 28
  (Std.elementDescriptor, Gen.ReadElementStatus_element_status_descriptor_bits ++ Gen.ReadElementStatus_storage_descriptor_bits),   -- 29
  (Std.elementDescriptor, Gen.ReadElementStatus_element_status_descriptor_bits ++ Gen.ReadElementStatus_import_export_descriptor_bits),   -- 30
  (Std.elementDescriptor, Gen.ReadElementStatus_element_status_descriptor_bits ++ []),   -- 31
  -- C04ms
  (modeHeader6, Gen.MODESENSE6_mode_parameter_header_bits), (modeHeader10, Gen.MODESENSE10_mode_parameter_header_bits),   -- 32
  -- C04pr
  (tidIscsiHeader, Gen.PersistentReserveInReadFullStatus_transport_id_bits),   -- 34
  (fullStatusDescriptor, Gen.PersistentReserveInReadFullStatus_full_status_desc_bits),   -- 35
  (prReportCapabilities, Gen.PersistentReserveInReportCapabilities_bits),   -- 36
  (prReportCapabilitiesBits, Gen.PersistentReserveInReportCapabilities_pr_type_mask_bits)]   -- 37

/-- Both facts compare the keys of the same tables with the fields of the same blocks. -/
theorem decided : Std.blocks.all blockOK = true ∧ tables.all (fun x => compatible x.2 x.1.rel x.1.len) = true := by
  decide +kernel

/-- **every row of `Std.blocks` conforms**: the library's table sits exactly on the fields of the standard's block -/
theorem all_response_tables_conform : Std.blocks.all blockOK = true := decided.1

theorem tables_conform : tables.all (fun x => compatible x.2 x.1.rel x.1.len) = true := decided.2

/-- A fact about one table names its row, and the kernel checks that the row is that table. -/
theorem tables_at (i : Nat) (h : i < tables.length := by decide) :
    compatible tables[i].2 tables[i].1.rel tables[i].1.len = true :=
  List.all_eq_true.mp tables_conform _ (List.getElem_mem h)

def keysDisjoint (a b : Layout) : Bool := a.all (fun x => b.all (fun y => x.1 != y.1))

theorem keysDisjoint_spec {a b : Layout} (h : keysDisjoint a b = true) (v : Vals) :
    ∀ k ∈ (reported a v).map (·.1), k ∉ b.map (·.1) :=
  fresh_of_keys _ (reported_keys a v) (by rw [List.all_map]; exact h)

theorem compatible_append {A B : Layout} {fs : List DField} {L : Nat} (h : compatible (A ++ B) fs L = true) :
    compatible A fs L = true ∧ compatible B fs L = true ∧ keysDisjoint A B = true := by
  unfold compatible keysDisjoint at *
  simp only [Bool.and_eq_true, List.all_append, pairwiseB_iff, List.pairwise_append, List.all_eq_true] at h ⊢
  exact ⟨⟨⟨h.1.1, h.1.2.1⟩, h.2.1⟩, ⟨⟨h.1.1, h.1.2.2.1⟩, h.2.2⟩, h.1.2.2.2⟩

theorem bind_ok {α β : Type} (a : α) (f : α → Except PyErr β) : (Except.ok a >>= f) = f a := rfl

theorem decodeInto_std2 (A B : Layout) (b : Block) (hc : compatible (A ++ B) b.rel b.len = true)
    (v : Vals) (hr : InRangeD b.rel v) (tr : Bytes) :
    (decodeInto (b.enc v ++ tr) A [] >>= decodeInto (b.enc v ++ tr) B) = .ok (reported A v ++ reported B v) := by
  obtain ⟨hA, hB, hd⟩ := compatible_append hc
  rw [decodeInto_std_nil _ _ hA v hr tr, bind_ok, decodeInto_std _ _ hB v hr tr _ (keysDisjoint_spec hd v)]

theorem prres_c : compatible Gen.PersistentReserveInReadReservation_bits prReadReservation.rel 24 = true := tables_at 3
theorem sdi_c : compatible Gen.ReadDiscInformation_sdi_bits discInfoStandard.rel 34 = true := tables_at 4

theorem readCapacity10_decodes (v : Vals) (hr : InRangeD readCapacity10.rel v) (tr : Bytes) :
    Dec.readCapacity10 (readCapacity10.enc v ++ tr) = .ok (.dict (reported Gen.ReadCapacity10_datain_bits v)) := by
  unfold Dec.readCapacity10
  rw [decodeInto_std_nil Gen.ReadCapacity10_datain_bits readCapacity10 (tables_at 0) v hr tr]
  rfl

theorem readCapacity16_decodes (v : Vals) (hr : InRangeD readCapacity16.rel v) (tr : Bytes) :
    Dec.readCapacity16 (readCapacity16.enc v ++ tr) = .ok (.dict (reported Gen.ReadCapacity16_datain_bits v)) := by
  unfold Dec.readCapacity16
  rw [decodeInto_std_nil Gen.ReadCapacity16_datain_bits readCapacity16 (tables_at 1) v hr tr]
  rfl

/-- standard INQUIRY data: the qualifier/type byte and every field of the standard table -/
theorem inquiry_standard_decodes (v : Vals) (hr : InRangeD inquiryStandard.rel v) (tr : Bytes) :
    Dec.inquiry (inquiryStandard.enc v ++ tr) 0 =
      .ok (.dict (reported Gen.Inquiry_datain_bits v ++ reported Gen.Inquiry_standard_bits v)) := by
  unfold Dec.inquiry Dec.inquiryStd
  rw [if_pos rfl, ← bind_assoc, decodeInto_std2 Gen.Inquiry_datain_bits Gen.Inquiry_standard_bits inquiryStandard (tables_at 2) v hr tr]
  rfl

/-- READ RESERVATION reads PRGENERATION and ADDITIONAL LENGTH from the first eight bytes, whichever format follows -/
theorem prReadReservation_head (b : Block) (hf : formatOK b.len b.rel = true) (hg : byteField b "pr_generation" 0 4 = true)
    (hl : byteField b "additional_length" 4 4 = true) (v : Vals) (hr : InRangeD b.rel v) (tr : Bytes) :
    Dec.prReadReservation (b.enc v ++ tr) =
      Dec.prReadReservationBody (v "pr_generation") (v "additional_length") (b.enc v ++ tr) := by
  unfold Dec.prReadReservation
  rw [b2i_slice_key b hf v hr tr _ 0 4 hg, b2i_slice_key b hf v hr tr _ 4 4 hl]

/-- PERSISTENT RESERVE IN / READ RESERVATION with a reservation present (ADDITIONAL LENGTH = 16) -/
theorem prReadReservation_decodes (v : Vals) (hr : InRangeD prReadReservation.rel v)
    (hal : v "additional_length" = 16) (tr : Bytes) :
    Dec.prReadReservation (prReadReservation.enc v ++ tr) =
      .ok (.dict ([("pr_generation", .int (v "pr_generation"))] ++
                  reported Gen.PersistentReserveInReadReservation_bits v)) := by
  rw [prReadReservation_head _ (compatible_format prres_c) (by decide) (by decide) v hr tr, hal]
  unfold Dec.prReadReservationBody
  rw [if_neg (by decide), if_neg (by decide),
    decodeInto_std _ _ prres_c v hr tr _ (fresh_of_keys ["pr_generation"] rfl (by decide))]
  rfl

/-- PERSISTENT RESERVE IN / READ RESERVATION without a reservation (ADDITIONAL LENGTH = 0) -/
theorem prReadReservation_none_decodes (v : Vals) (hr : InRangeD prHeader.rel v)
    (hal : v "additional_length" = 0) (tr : Bytes) :
    Dec.prReadReservation (prHeader.enc v ++ tr) = .ok (.dict [("pr_generation", .int (v "pr_generation"))]) := by
  rw [prReadReservation_head _ (by decide +kernel) (by decide) (by decide) v hr tr, hal]
  rfl

/-! READ DISC INFORMATION: the three data types share bytes 0–2, and byte 2 selects the decoder. -/

theorem discInfo_type (b : Block) (hf : formatOK b.len b.rel = true)
    (hg : (⟨"disc_information_data_type", 2, 7, 3⟩ : DField) ∈ b.rel) (v : Vals) (hr : InRangeD b.rel v) (tr : Bytes) :
    Dec.readDiscInformation (b.enc v ++ tr) = Dec.discInfoByType (v "disc_information_data_type") (b.enc v ++ tr) := by
  obtain ⟨x, hx, hlt, hxv⟩ := idx_field b hf v hr tr _ hg (by decide)
  dsimp only at hx hxv
  unfold Dec.readDiscInformation
  rw [idx_eq hx, bind_ok, ← hxv, Nat.shiftRight_eq_div_pow]
  congr 1
  omega

/-- A disc information data type decoded by one table.  At an instance `hty` is the type's branch of
`Dec.discInfoByType` (`fun _ => rfl`), `hg` is decided. -/
theorem discInfo_flat (b : Block) (lay : Layout) (ty : Nat) (hc : compatible lay b.rel b.len = true)
    (hg : (⟨"disc_information_data_type", 2, 7, 3⟩ : DField) ∈ b.rel)
    (hty : ∀ data, Dec.discInfoByType ty data = (do pure (.dict (← decodeInto data lay []))))
    (v : Vals) (hr : InRangeD b.rel v) (ht : v "disc_information_data_type" = ty) (tr : Bytes) :
    Dec.readDiscInformation (b.enc v ++ tr) = .ok (.dict (reported lay v)) := by
  rw [discInfo_type b (compatible_format hc) hg v hr tr, ht, hty, decodeInto_std_nil lay b hc v hr tr]
  rfl

/-- READ DISC INFORMATION, track resources (data type 001b) -/
theorem discInfo_track_decodes (v : Vals) (hr : InRangeD discInfoTrack.rel v)
    (ht : v "disc_information_data_type" = 1) (tr : Bytes) :
    Dec.readDiscInformation (discInfoTrack.enc v ++ tr) = .ok (.dict (reported Gen.ReadDiscInformation_tri_bits v)) :=
  discInfo_flat discInfoTrack Gen.ReadDiscInformation_tri_bits 1 (tables_at 5) (by decide) (fun _ => rfl) v hr ht tr

/-- READ DISC INFORMATION, POW resources (data type 010b) -/
theorem discInfo_pow_decodes (v : Vals) (hr : InRangeD discInfoPow.rel v)
    (ht : v "disc_information_data_type" = 2) (tr : Bytes) :
    Dec.readDiscInformation (discInfoPow.enc v ++ tr) = .ok (.dict (reported Gen.ReadDiscInformation_pow_bits v)) :=
  discInfo_flat discInfoPow Gen.ReadDiscInformation_pow_bits 2 (tables_at 6) (by decide) (fun _ => rfl) v hr ht tr

def sdiComb (v : Vals) (r : PDict) (name msb lsb : String) : PDict :=
  ((r.set name (.int (v msb * 256 + v lsb))).del msb).del lsb

def sdiReported (v : Vals) : PDict :=
  sdiComb v (sdiComb v (sdiComb v (reported Gen.ReadDiscInformation_sdi_bits v)
    "number_of_sessions" "number_of_sessions_msb" "number_of_sessions_lsb")
    "first_track_number_in_last_session" "first_track_number_in_last_session_msb" "first_track_number_in_last_session_lsb")
    "last_track_number_in_last_session" "last_track_number_in_last_session_msb" "last_track_number_in_last_session_lsb"

theorem getInt_sdiComb (v : Vals) (r : PDict) (name msb lsb k : String) (h : k ∉ [name, msb, lsb]) :
    getInt (sdiComb v r name msb lsb) k = getInt r k := by
  simp only [List.mem_cons, List.not_mem_nil, or_false, not_or] at h
  rw [sdiComb, getInt_del_ne _ _ _ h.2.2, getInt_del_ne _ _ _ h.2.1, getInt_set_ne _ _ _ _ h.1]

/-- `ks`: the halves of the combinations still to come, which this one leaves as the device sent them -/
theorem comb_std (v : Vals) (r : PDict) (name msb lsb : String) (ks : List String)
    (H : ∀ k ∈ msb :: lsb :: ks, getInt r k = .ok (v k)) (hks : ∀ k ∈ ks, k ∉ [name, msb, lsb]) :
    Dec.combMsbLsb r name msb lsb = .ok (sdiComb v r name msb lsb) ∧
      ∀ k ∈ ks, getInt (sdiComb v r name msb lsb) k = .ok (v k) := by
  refine ⟨?_, fun k hk => (getInt_sdiComb v r name msb lsb k (hks k hk)).trans (H k (by simp [hk]))⟩
  unfold Dec.combMsbLsb
  rw [H msb (by simp), bind_ok, H lsb (by simp)]
  rfl

/-- READ DISC INFORMATION, standard disc information (data type 000b): NUMBER OF SESSIONS, FIRST / LAST TRACK NUMBER
    IN LAST SESSION are reported as one number each, most significant byte × 256 + least significant byte of the
    values the device sent, the two halves no longer being reported; OPC table entries, if any, are not decoded -/
theorem discInfo_standard_decodes (v : Vals) (hr : InRangeD discInfoStandard.rel v)
    (ht : v "disc_information_data_type" = 0) (tr : Bytes) :
    Dec.readDiscInformation (discInfoStandard.enc v ++ tr) = .ok (.dict (sdiReported v)) := by
  have H0 : ∀ k ∈ ["number_of_sessions_msb", "number_of_sessions_lsb", "first_track_number_in_last_session_msb",
      "first_track_number_in_last_session_lsb", "last_track_number_in_last_session_msb", "last_track_number_in_last_session_lsb"],
      getInt (reported Gen.ReadDiscInformation_sdi_bits v) k = .ok (v k) :=
    fun k hk => getInt_reported _ v k ((by decide : ∀ k ∈ _, isBits Gen.ReadDiscInformation_sdi_bits k = true) k hk)
  obtain ⟨e1, H1⟩ := comb_std v _ "number_of_sessions" _ _ _ H0 (by decide)
  obtain ⟨e2, H2⟩ := comb_std v _ "first_track_number_in_last_session" _ _ _ H1 (by decide)
  obtain ⟨e3, _⟩ := comb_std v _ "last_track_number_in_last_session" _ _ [] H2 (by decide)
  rw [discInfo_type _ (compatible_format sdi_c) (by decide) v hr tr, ht]
  show Dec.discInfoStandard _ = _
  unfold Dec.discInfoStandard
  rw [decodeInto_std_nil _ _ sdi_c v hr tr, bind_ok, e1, bind_ok, e2, bind_ok, e3]
  rfl

/-- the combined numbers are what the device sent: e.g. NUMBER OF SESSIONS -/
theorem sdi_number_of_sessions (v : Vals) :
    getInt (sdiReported v) "number_of_sessions" = .ok (v "number_of_sessions_msb" * 256 + v "number_of_sessions_lsb") := by
  unfold sdiReported
  rw [getInt_sdiComb _ _ _ _ _ _ (by decide), getInt_sdiComb _ _ _ _ _ _ (by decide), sdiComb,
    getInt_del_ne _ _ _ (by decide), getInt_del_ne _ _ _ (by decide), getInt, get?_set_self]

def enumVal (m e k : String) : Option Nat :=
  (Gen.enums.find? (fun x => x.1 == m && x.2.1 == e)).bind (fun x => (x.2.2.find? (·.1 == k)).map (·.2))

/-- the constants the decoder / builder models dispatch on, with the library's names for them -/
def modelConstants : List (String × String × String × Nat) := [
  ("scsi_enum_inquiry", "VPD", "SUPPORTED_VPD_PAGES", 0x00), ("scsi_enum_inquiry", "VPD", "UNIT_SERIAL_NUMBER", 0x80),
  ("scsi_enum_inquiry", "VPD", "DEVICE_IDENTIFICATION", 0x83), ("scsi_enum_inquiry", "VPD", "EXTENDED_INQUIRY_DATA", 0x86),
  ("scsi_enum_inquiry", "VPD", "ATA_INFORMATION", 0x89), ("scsi_enum_inquiry", "VPD", "BLOCK_LIMITS", 0xB0),
  ("scsi_enum_inquiry", "VPD", "BLOCK_DEVICE_CHARACTERISTICS", 0xB1), ("scsi_enum_inquiry", "VPD", "LOGICAL_BLOCK_PROVISIONING", 0xB2),
  ("scsi_enum_inquiry", "VPD", "REFERRALS", 0xB3),
  ("scsi_enum_inquiry", "DESIGNATOR", "VENDOR_SPECIFIC", 0), ("scsi_enum_inquiry", "DESIGNATOR", "T10_VENDOR_ID", 1),
  ("scsi_enum_inquiry", "DESIGNATOR", "EUI_64", 2), ("scsi_enum_inquiry", "DESIGNATOR", "NAA", 3),
  ("scsi_enum_inquiry", "DESIGNATOR", "RELATIVE_TARGET_PORT_IDENTIFIER", 4), ("scsi_enum_inquiry", "DESIGNATOR", "TARGET_PORTAL_GROUP", 5),
  ("scsi_enum_inquiry", "DESIGNATOR", "LOGICAL_UNIT_GROUP", 6), ("scsi_enum_inquiry", "DESIGNATOR", "MD5_LOGICAL_IDENTIFIER", 7),
  ("scsi_enum_inquiry", "DESIGNATOR", "SCSI_NAME_STRING", 8), ("scsi_enum_inquiry", "DESIGNATOR", "PCI_EXPRESS_ROUTING_ID", 9),
  ("scsi_enum_inquiry", "NAA", "IEEE_EXTENDED", 2), ("scsi_enum_inquiry", "NAA", "LOCALLY_ASSIGNED", 3),
  ("scsi_enum_inquiry", "NAA", "IEEE_REGISTERED", 5), ("scsi_enum_inquiry", "NAA", "IEEE_REGISTERED_EXTENDED", 6),
  ("scsi_enum_modesense", "PAGE_CODE", "DISCONNECT_RECONNECT", 0x02), ("scsi_enum_modesense", "PAGE_CODE", "CONTROL", 0x0A),
  ("scsi_enum_modesense", "PAGE_CODE", "ELEMENT_ADDRESS_ASSIGNMENT", 0x1D),
  ("scsi_enum_persistentreserve", "PROTOCOL_ID", "FIBRE_CHANNEL", 0), ("scsi_enum_persistentreserve", "PROTOCOL_ID", "IEEE_1394", 3),
  ("scsi_enum_persistentreserve", "PROTOCOL_ID", "RDMA", 4), ("scsi_enum_persistentreserve", "PROTOCOL_ID", "ISCSI", 5),
  ("scsi_enum_persistentreserve", "PROTOCOL_ID", "SAS", 6), ("scsi_enum_persistentreserve", "PROTOCOL_ID", "SOP", 0xA),
  ("scsi_enum_readdiscinformation", "DISC_INFORMATION_DATA_TYPE", "STANDARD_DISC_INFORMATION", 0),
  ("scsi_enum_readdiscinformation", "DISC_INFORMATION_DATA_TYPE", "TRACK_RESOURCES_INFORMATION", 1),
  ("scsi_enum_readdiscinformation", "DISC_INFORMATION_DATA_TYPE", "POW_RESOURCES_DISC_INFORMATION", 2),
  ("scsi_enum_readelementstatus", "ELEMENT_TYPE", "STORAGE", 2), ("scsi_enum_readelementstatus", "ELEMENT_TYPE", "IMPORT_EXPORT", 3),
  ("scsi_enum_readelementstatus", "ELEMENT_TYPE", "DATA_TRANSFER", 4),
  ("scsi_cdb_report_target_port_groups", "DATA_FORMAT_TYPE", "EXTENDED_HEADER_PARAMETER_DATA_FORMAT", 1),
  ("scsi_cdb_readcd", "EXPECTED_SECTOR_TYPE", "CDDA", 1), ("scsi_cdb_readcd", "EXPECTED_SECTOR_TYPE", "MODE_1", 2),
  ("scsi_cdb_readcd", "EXPECTED_SECTOR_TYPE", "MODE_2_FORMLESS", 3), ("scsi_cdb_readcd", "EXPECTED_SECTOR_TYPE", "MODE_2_FORM_1", 4),
  ("scsi_cdb_readcd", "EXPECTED_SECTOR_TYPE", "MODE_2_FORM_2", 5)]

/-- **the literals in `Model/Formats/*` are the library's enum values** (regenerated every run) -/
theorem model_constants_match : modelConstants.all (fun x => enumVal x.1 x.2.1 x.2.2.1 == some x.2.2.2) = true := by
  decide +kernel

/-- GET LBA STATUS: every descriptor inside PARAMETER DATA LENGTH, whole and in order, nothing
    beyond it — for every descriptor count and any trailing bytes -/
theorem getLbaStatus_decodes (ds : List Vals) (hr : ∀ v ∈ ds, InRangeD lbaStatusDescriptor.rel v)
    (hfit : 4 + 16 * ds.length < 2 ^ 32) (tr : Bytes) :
    Dec.getLbaStatus (encGetLbaStatus ds ++ tr) =
      .ok (.dict [("lbas", .list (ds.map (fun v => PV.dict (reported Gen.GetLBAStatus_datain_bits v))))]) := by
  have hl : ∀ v ∈ ds, (lbaStatusDescriptor.enc v).length = 16 := fun v _ => enc_length _ v
  unfold Dec.getLbaStatus encGetLbaStatus
  simp only [List.append_assoc]
  rw [b2i_head _ 4 _ hfit, ← List.append_assoc (toBytes _ 4),
    slice_at _ _ _ 8 _ (by simp) (by rw [items_length _ 16 ds hl]; omega), pieces_items _ 16 (by decide) ds hl,
    Except.mapM_map_ok _ _ (fun v => PV.dict (reported Gen.GetLBAStatus_datain_bits v))]
  · rfl
  · intro v hv
    rw [decodeInto_block Gen.GetLBAStatus_datain_bits lbaStatusDescriptor (tables_at 7) v (hr v hv)]
    rfl

theorem lun_reported (v : Vals) : reported Gen.ReportLuns_datain_bits v = [("lun", .int (v "lun"))] := rfl

/-- `r[k'] = r.pop(k)` on a dictionary with the one key `k` -/
theorem pop_set_single (k k' : String) (x : PV) :
    (PDict.del [(k, x)] k).set k' ((PDict.get? [(k, x)] k).getD .none) = [(k', x)] := by
  simp [PDict.del, PDict.set, PDict.get?]

/-- REPORT LUNS: every LUN inside LUN LIST LENGTH (n−7), in order, under the keys `lun0`, `lun1`, … -/
theorem reportLuns_decodes (luns : List Vals) (hr : ∀ v ∈ luns, InRangeD lunEntry.rel v)
    (hfit : 8 * luns.length < 2 ^ 32) (tr : Bytes) :
    Dec.reportLuns (encReportLuns luns ++ tr) =
      .ok (.dict [("luns", .list (luns.mapIdx (fun i v => PV.dict [("lun" ++ toString i, .int (v "lun"))])))]) := by
  have hl : ∀ v ∈ luns, (lunEntry.enc v).length = 8 := fun v _ => enc_length _ v
  unfold Dec.reportLuns encReportLuns
  simp only [List.append_assoc]
  rw [b2i_head _ 4 _ hfit, ← List.append_assoc (toBytes _ 4),
    slice_at _ _ _ 8 _ (by simp) (by rw [items_length _ 8 luns hl]; omega), pieces_items _ 8 (by decide) luns hl,
    Except.mapM_map_ok _ _ (fun v => ([("lun", PV.int (v "lun"))] : PDict))]
  · simp only [bind, Except.bind, pure, Except.pure, mapIdx_map, pop_set_single]
  · intro v hv
    rw [decodeInto_block Gen.ReportLuns_datain_bits lunEntry (tables_at 8) v (hr v hv)]
    rfl

/-- PERSISTENT RESERVE IN / READ KEYS: PRGENERATION and every key inside ADDITIONAL LENGTH (n−7) -/
theorem prReadKeys_decodes (gen : Nat) (keys : List Nat) (hg : gen < 2 ^ 32) (hk : ∀ k ∈ keys, k < 2 ^ 64)
    (hfit : 8 * keys.length < 2 ^ 32) (tr : Bytes) :
    Dec.prReadKeys (encReadKeys gen keys ++ tr) =
      .ok (.dict [("pr_generation", .int gen), ("reservation_keys", .list (keys.map PV.int))]) := by
  have hl : ∀ k ∈ keys, (toBytes k 8).length = 8 := fun k _ => toBytes_length k 8
  unfold Dec.prReadKeys encReadKeys
  simp only [List.append_assoc]
  rw [b2i_head _ 4 _ hg, b2i_at _ _ 4 _ 4 8 (by simp) rfl hfit, ← List.append_assoc (toBytes gen 4),
    slice_at _ _ _ 8 _ (by simp) (by rw [items_length _ 8 keys hl]; omega), pieces_items _ 8 (by decide) keys hl, List.map_map,
    List.map_congr_left (f := (fun p => PV.int (b2i p)) ∘ (toBytes · 8)) (g := PV.int)
      (fun k hkm => congrArg PV.int (b2i_be k 8 (hk k hkm)))]

end C04
