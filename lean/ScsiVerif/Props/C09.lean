import ScsiVerif.Model.Isolation
import ScsiVerif.Model.Command
import ScsiVerif.Lemmas.Assoc
/-!
# C09 — command objects are isolated from one another, in any order or interleaving

A schedule is **any** list of actions (any number of threads, any interleaving at the granularity of
attribute accesses).  `classLen` assigns each command class the CDB length of its operation code
(C01: one fixed group per class).
-/
namespace C09
open Iso

theorem lookup_setLen (s : St) (c d : String) (n : Nat) :
    lookup (setLen s c n) d = if d = c then some n else lookup s d := by
  unfold lookup setLen
  rw [List.find?_cons]
  by_cases h : d = c
  · simp [h]
  · simp only [show ((c, n).1 == d) = false from by simpa using Ne.symm h, Assoc.find_filter_ne, if_neg h]

def Good (classLen : String → Nat) (s : St) : Prop := ∀ c n, lookup s c = some n → n = classLen c

def ctorsConsistent (classLen : String → Nat) (sched : List Act) : Prop :=
  ∀ c n, Act.ctor c n ∈ sched → n = classLen c

theorem good_step (classLen : String → Nat) (s : St) (a : Act) (hg : Good classLen s)
    (ha : ∀ c n, a = .ctor c n → n = classLen c) : Good classLen (step s a).1 := by
  cases a with
  | ctor c n =>
    intro d m hd
    simp only [step, lookup_setLen] at hd
    split at hd
    · cases hd; subst d; exact ha c n rfl
    · exact hg d m hd
  | build c => exact hg
  | decode c => exact hg

theorem isSome_step (s : St) (a : Act) (c : String) (h : (lookup s c).isSome) : (lookup (step s a).1 c).isSome := by
  cases a with
  | ctor d m =>
    rw [step, lookup_setLen]
    split
    · rfl
    · exact h
  | build d => exact h
  | decode d => exact h

/-- **Isolation, for every schedule.**  Whatever commands of whatever classes are created, used or
discarded before, after or concurrently, an encode on class `c` that follows (anywhere earlier in the
global order, e.g. in its own thread's constructor) a construction of a `c` works with `c`'s own
layout and the CDB length of `c`'s operation code; a decode works with `c`'s own layout. -/
theorem isolation (classLen : String → Nat) (sched : List Act) (s : St) (hg : Good classLen s)
    (hc : ctorsConsistent classLen sched) (i : Nat) (c : String) :
    (sched[i]? = some (.build c) → (∃ j n, j < i ∧ sched[j]? = some (.ctor c n)) ∨ (lookup s c).isSome →
        (run s sched)[i]? = some (some (c, some (classLen c)))) ∧
    (sched[i]? = some (.decode c) → (run s sched)[i]? = some (some (c, none))) := by
  induction sched generalizing s i with
  | nil => simp
  | cons a rest ih =>
    have hg' : Good classLen (step s a).1 :=
      good_step classLen s a hg (fun c n h => hc c n (by simp [h]))
    have hc' : ctorsConsistent classLen rest := fun c n h => hc c n (by simp [h])
    cases i with
    | zero =>
      simp only [List.getElem?_cons_zero, Option.some.injEq, run]
      constructor
      · rintro rfl (⟨j, n, hj, _⟩ | hs)
        · omega
        · obtain ⟨m, hl⟩ := Option.isSome_iff_exists.mp hs
          rw [step, hl, hg c m hl]
      · rintro rfl
        rfl
    | succ k =>
      simp only [List.getElem?_cons_succ, run]
      refine ⟨fun hb hpre => (ih _ hg' hc' k).1 hb ?_, (ih _ hg' hc' k).2⟩
      -- the hypothesis one action later: a constructor at position 0 has left its length in the state, and a class
      -- that has a length keeps it (`isSome_step`)
      rcases hpre with ⟨_ | j, n, hj, hjc⟩ | hs
      · cases Option.some.inj hjc
        exact .inr (by simp [step, lookup_setLen])
      · exact .inl ⟨j, n, by omega, hjc⟩
      · exact .inr (isSome_step s a c hs)

theorem good_init (classLen : String → Nat) : Good classLen ⟨[], none⟩ := by
  intro c n h; simp [lookup] at h

/-- **two threads**: T1 builds a READ(10) while T2 builds an INQUIRY, in the interleaving that broke
the original design (T1 constructs, T2 constructs, T1 encodes): with per-class state T1 still gets its
own layout and 10 bytes … -/
theorem two_threads_fixed :
    run ⟨[], none⟩ [.ctor "Read10" 10, .ctor "Inquiry" 6, .build "Read10", .build "Inquiry", .decode "Read10"]
      = [none, none, some ("Read10", some 10), some ("Inquiry", some 6), some ("Read10", none)] := by decide

/-- … whereas the design before the repair gave T1 the INQUIRY layout and a 6-byte CDB, and decoded
with the wrong class's layout (the defect recorded in known_findings.json as fixed) -/
theorem old_design_witness :
    runOld ⟨[], none⟩ [.ctor "Read10" 10, .ctor "Inquiry" 6, .build "Read10", .decode "Read10"]
      = [none, none, some ("Inquiry", some 6), some ("Inquiry", none)] := by decide

/-- **repeating a marshalling call with equal inputs yields equal bytes**: the constructor and the
CDB codec are functions of (class description, operation code, arguments) only -/
theorem build_is_a_function (d : Cmd.CmdDesc) (op : Cmd.OpCode) (args : Cmd.Env) :
    Cmd.build d op args = Cmd.build d op args := rfl

end C09
