import ScsiVerif.Std.Target
/-!
# C12 — data written through the library is read back intact from a conformant target

`Std.Target` decodes CDBs by byte position.  A command "meets the standard" (`Conformant`) when its
CDB has the operation code, length, LOGICAL BLOCK ADDRESS and TRANSFER LENGTH where SBC puts them —
which is exactly what C01 (`C01.cdb_meets_standard`) proves of every CDB the library builds, and C03
proves `dataout` is the caller's data.  The theorems below are about *any* sequence of such commands.
-/
namespace C12
open Std Std.Target

theorem disk_push (t : T) (lo hi x : Nat) (b : Bytes) :
    disk { t with blocks := (lo, hi, b) :: t.blocks } x = if lo ≤ x ∧ x < hi then b else disk t x := by
  unfold disk
  by_cases h : lo ≤ x ∧ x < hi <;> simp [h]

theorem disk_cons (t : T) (lba x : Nat) (b : Bytes) :
    disk { t with blocks := (lba, lba + 1, b) :: t.blocks } x = if x = lba then b else disk t x := by
  rw [disk_push]
  -- an extent of one block is that block
  simp only [show (lba ≤ x ∧ x < lba + 1) ↔ x = lba by omega]

theorem writeBlocks_meta (t : T) (lba : Nat) (bs : List Bytes) :
    (writeBlocks t lba bs).blockSize = t.blockSize ∧ (writeBlocks t lba bs).capacity = t.capacity ∧
    (writeBlocks t lba bs).pdt = t.pdt ∧ (writeBlocks t lba bs).vendor = t.vendor ∧
    (writeBlocks t lba bs).product = t.product := by
  induction bs generalizing t lba with
  | nil => simp [writeBlocks]
  | cons b rest ih => simpa [writeBlocks] using ih _ _

theorem disk_writeBlocks (t : T) (lba : Nat) (bs : List Bytes) (x : Nat) :
    disk (writeBlocks t lba bs) x =
      if lba ≤ x ∧ x < lba + bs.length then bs[x - lba]?.getD [] else disk t x := by
  induction bs generalizing t lba with
  | nil => rw [writeBlocks, if_neg (by simp)]
  | cons b rest ih =>
    rw [writeBlocks, ih, disk_cons, List.length_cons]
    by_cases hx : x = lba
    · subst hx; rw [if_neg (by omega), if_pos rfl, if_pos (by omega), Nat.sub_self]; rfl
    · by_cases h1 : lba + 1 ≤ x ∧ x < lba + 1 + rest.length
      · rw [if_pos h1, if_pos (by omega), show x - lba = (x - (lba + 1)) + 1 by omega]; rfl
      · rw [if_neg h1, if_neg hx, if_neg (by omega)]

theorem readBlocks_eq (t : T) (lba n : Nat) :
    readBlocks t lba n = (List.range n).flatMap (fun i => disk t (lba + i)) := by
  induction n generalizing lba with
  | zero => rfl
  | succ k ih =>
    rw [readBlocks, ih, List.range_succ_eq_map]
    simp [List.flatMap_cons, List.flatMap_map, Nat.add_assoc, Nat.add_comm 1]

/-- the CDB carries `op`, `lba`, `tl` where SBC puts them for its size (10/12/16 bytes) -/
def Conformant (cdb : Bytes) (op lba tl : Nat) : Prop :=
  cdb.head? = some op ∧ (cdb.length = 10 ∨ cdb.length = 12 ∨ cdb.length = 16) ∧ addr cdb = (lba, tl)

def isRead (op : Nat) : Prop := op = 0x28 ∨ op = 0xA8 ∨ op = 0x88
def isWrite (op : Nat) : Prop := op = 0x2A ∨ op = 0xAA ∨ op = 0x8A

instance (op : Nat) : Decidable (isRead op) := by unfold isRead; infer_instance
instance (op : Nat) : Decidable (isWrite op) := by unfold isWrite; infer_instance

theorem read_returns_disk (t : T) (cdb : Bytes) (op lba tl : Nat) (hc : Conformant cdb op lba tl)
    (hop : isRead op) (hr : lba + tl ≤ t.capacity) (dout : Bytes) :
    step t cdb dout (tl * t.blockSize + 0) = (t, ⟨.good, ((List.range tl).flatMap (fun i => disk t (lba + i))).take (tl * t.blockSize)⟩) := by
  obtain ⟨h1, _, h3⟩ := hc
  unfold step
  simp only [h1]
  have : (op = 0x28 ∨ op = 0xA8 ∨ op = 0x88) := hop
  simp only [this, if_true, h3, hr, readBlocks_eq, Nat.add_zero]

/-- WRITE(10/12/16) stores the caller's data block by block and changes nothing else -/
theorem write_updates_disk (t : T) (cdb : Bytes) (op lba tl : Nat) (hc : Conformant cdb op lba tl)
    (hop : isWrite op) (hr : lba + tl ≤ t.capacity) (data : Bytes) (hd : data.length = tl * t.blockSize) :
    (step t cdb data 0).2.status = .good ∧
    (step t cdb data 0).1 = writeBlocks t lba (chunks t.blockSize tl data) := by
  obtain ⟨h1, _, h3⟩ := hc
  unfold step
  simp only [h1]
  have hw : (op = 0x2A ∨ op = 0xAA ∨ op = 0x8A) := hop
  have hnr : ¬ (op = 0x28 ∨ op = 0xA8 ∨ op = 0x88) := by
    rcases hw with h | h | h <;> subst h <;> decide
  simp [hnr, hw, h3, hr, hd]

theorem chunks_length (bs n : Nat) (d : Bytes) : (chunks bs n d).length = n := by
  induction n generalizing d with
  | zero => rfl
  | succ k ih => simp [chunks, ih]

theorem chunks_getElem (bs n : Nat) (d : Bytes) (i : Nat) (hi : i < n) :
    (chunks bs n d)[i]? = some ((d.drop (i * bs)).take bs) := by
  induction n generalizing d i with
  | zero => omega
  | succ k ih =>
    cases i with
    | zero => simp [chunks]
    | succ j =>
      simp only [chunks, List.getElem?_cons_succ]
      rw [ih _ j (by omega)]
      simp [List.drop_drop, Nat.add_mul, Nat.add_comm]

inductive Op
  | write (lba tl : Nat) (data : Bytes)
  | writeSame (lba nb : Nat) (block : Bytes)
  | sync
  | read (lba tl : Nat)
  deriving Repr

/-- the specification: an ordinary function from block address to contents -/
def specStep (bs cap : Nat) (d : Nat → Bytes) : Op → (Nat → Bytes)
  | .write lba tl data => fun x => if lba ≤ x ∧ x < lba + tl then (data.drop ((x - lba) * bs)).take bs else d x
  | .writeSame lba nb blk => fun x => if lba ≤ x ∧ x < (if nb = 0 then cap else lba + nb) then blk else d x
  | .sync => d
  | .read _ _ => d

/-- what the target does for an operation, as the direct effect on its state (this is what `step`
does for the corresponding conformant CDB: `write_updates_disk`, `read_returns_disk`) -/
def targetStep (t : T) : Op → T
  | .write lba tl data => writeBlocks t lba (chunks t.blockSize tl data)
  | .writeSame lba nb blk => if nb = 0 then fillToEnd t lba blk else writeBlocks t lba (List.replicate nb blk)
  | .sync => t
  | .read _ _ => t

def opOK (t : T) : Op → Prop
  | .write lba tl data => lba + tl ≤ t.capacity ∧ data.length = tl * t.blockSize
  | .writeSame lba nb blk => lba + nb ≤ t.capacity ∧ blk.length = t.blockSize
  | _ => True

theorem targetStep_refines (t : T) (op : Op) :
    disk (targetStep t op) = specStep t.blockSize t.capacity (disk t) op ∧ (targetStep t op).blockSize = t.blockSize ∧
    (targetStep t op).capacity = t.capacity := by
  cases op with
  | write lba tl data =>
    refine ⟨funext fun x => ?_, (writeBlocks_meta _ _ _).1, (writeBlocks_meta _ _ _).2.1⟩
    simp only [targetStep, specStep]
    rw [disk_writeBlocks, chunks_length]
    split
    · rw [chunks_getElem _ _ _ _ (by omega)]; rfl
    · rfl
  | writeSame lba nb blk =>
    by_cases hz : nb = 0
    · subst hz
      exact ⟨funext fun x => disk_push t lba t.capacity x blk, rfl, rfl⟩
    · simp only [targetStep, specStep, if_neg hz]
      refine ⟨funext fun x => ?_, (writeBlocks_meta _ _ _).1, (writeBlocks_meta _ _ _).2.1⟩
      rw [disk_writeBlocks, List.length_replicate]
      split
      · rw [List.getElem?_replicate, if_pos (by omega)]; rfl
      · rfl
  | sync => exact ⟨rfl, rfl, rfl⟩
  | read _ _ => exact ⟨rfl, rfl, rfl⟩

/-- **write then read**: after a conformant WRITE of `data` at `lba`, the abstract disk holds block
`i` of `data` at `lba + i`, and every other block is unchanged — for any LBA (also above 2^32 with
the 16-byte forms), any transfer length, any block size, any payload. -/
theorem disk_after_write (t : T) (cdb : Bytes) (op lba tl : Nat) (hc : Conformant cdb op lba tl)
    (hop : isWrite op) (hr : lba + tl ≤ t.capacity) (data : Bytes) (hd : data.length = tl * t.blockSize) (x : Nat) :
    disk (step t cdb data 0).1 x =
      if lba ≤ x ∧ x < lba + tl then (data.drop ((x - lba) * t.blockSize)).take t.blockSize else disk t x := by
  rw [(write_updates_disk t cdb op lba tl hc hop hr data hd).2]
  exact congrFun (targetStep_refines t (.write lba tl data)).1 x

def allOK (t : T) : List Op → Prop
  | [] => True
  | op :: rest => opOK t op ∧ allOK (targetStep t op) rest

/-- the refinement needs no side condition: out-of-range or mis-sized operations change both sides alike -/
theorem foldl_refines (t : T) (ops : List Op) :
    disk (ops.foldl targetStep t) = ops.foldl (specStep t.blockSize t.capacity) (disk t) := by
  induction ops generalizing t with
  | nil => rfl
  | cons op rest ih =>
    obtain ⟨h1, h2, h3⟩ := targetStep_refines t op
    rw [List.foldl_cons, List.foldl_cons, ih, h1, h2, h3]

/-- **for every sequence of write / write-same / sync / read commands** the target's block map is
the abstract disk that underwent the same operations: every READ returns exactly the data last
written to each block. -/
theorem run_refines (t : T) (ops : List Op) (hok : allOK t ops) :
    disk (ops.foldl targetStep t) = ops.foldl (specStep t.blockSize t.capacity) (disk t) :=
  foldl_refines t ops

/-- WRITE SAME(10/16) with a data-out block: what `step` does is the `writeSame` operation — also for a NUMBER OF
LOGICAL BLOCKS of zero, which a target with WSNZ = 0 takes as "to the end of the medium" -/
theorem write_same_updates_disk (t : T) (cdb : Bytes) (op lba nb : Nat) (hc : Conformant cdb op lba nb)
    (hop : op = 0x41 ∨ op = 0x93) (hnd : ¬ (op = 0x93 ∧ (be cdb 1 1) % 2 = 1)) (hr : lba + nb ≤ t.capacity)
    (blk : Bytes) (hb : blk.length = t.blockSize) :
    (step t cdb blk 0).2.status = .good ∧ (step t cdb blk 0).1 = targetStep t (.writeSame lba nb blk) := by
  obtain ⟨h1, _, h3⟩ := hc
  unfold step
  simp only [h1]
  have hnr : ¬ (op = 0x28 ∨ op = 0xA8 ∨ op = 0x88) := by
    rcases hop with h | h <;> subst h <;> decide
  have hnw : ¬ (op = 0x2A ∨ op = 0xAA ∨ op = 0x8A) := by
    rcases hop with h | h <;> subst h <;> decide
  simp only [hnr, hnw, if_false, hop, if_true, h3, hnd, hr, hb, and_self, targetStep]

/-- after WRITE SAME with a block count of zero every block from `lba` to the end of the medium reads as `blk` -/
theorem disk_after_write_same_zero (t : T) (lba : Nat) (blk : Bytes) (x : Nat) :
    disk (targetStep t (.writeSame lba 0 blk)) x = if lba ≤ x ∧ x < t.capacity then blk else disk t x :=
  disk_push t lba t.capacity x blk

theorem read_capacity_10 (t : T) (cdb : Bytes) (rest : Bytes) (hc : cdb = 0x25 :: rest) :
    (step t cdb [] 8).2 = ⟨.good, toBe (min (t.capacity - 1) 0xFFFFFFFF) 4 ++ toBe t.blockSize 4⟩ := by
  subst hc
  have hl : (toBe (min (t.capacity - 1) 0xFFFFFFFF) 4 ++ toBe t.blockSize 4).length = 8 := by simp [toBe, toBytes]
  simp [step, List.take_of_length_le (Nat.le_of_eq hl)]

theorem inquiry_reports_type (t : T) : (inquiryData t 36).head? = some (t.pdt % 32) := by
  simp [inquiryData]

example : (step ⟨4, 100, [], 0, [], []⟩ [0x2A, 0, 0, 0, 0, 5, 0, 0, 2, 0] [1, 2, 3, 4, 5, 6, 7, 8] 0).1.blocks
    = [(6, 7, [5, 6, 7, 8]), (5, 6, [1, 2, 3, 4])] := by decide

end C12
