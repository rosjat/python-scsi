import ScsiVerif.Lemmas.Build
import ScsiVerif.Model.Xfer
import ScsiVerif.Model.Guards
import ScsiVerif.Gen.Commands
import ScsiVerif.Gen.Opcodes
import ScsiVerif.Props.C14b
/-!
# C17 — invalid requests are refused before anything is sent

A constructor is `Cmd.build : … → Except PyErr Command`: when it is refused there is *no* command
value (nothing partially initialised can be returned), and the facade model (C13) executes only
commands it obtained from a successful construction.
-/
namespace C17
open Conv Cmd Std Xfer Guards

/-- the guard `if blocksize == 0: raise MissingBlocksizeException` -/
def bsGuard : Expr × PyErr := (.eq (.param "blocksize") (.lit 0), .missingBlocksize)
/-- the guard `if not ndob and blocksize == 0: raise …` of WRITE SAME(16) -/
def bsGuardUnless (flag : String) : Expr × PyErr :=
  (.and (.not (.param flag)) (.eq (.param "blocksize") (.lit 0)), .missingBlocksize)

@[simp] theorem truthy_bool (b : Bool) : (PVal.bool b).truthy = b := rfl

/-- **for all other arguments**: a constructor whose first statement is the block-size guard
refuses a zero block size with `MissingBlocksizeException`. -/
theorem zero_blocksize_refused (d : CmdDesc) (rest : List (Expr × PyErr)) (hg : d.guards = bsGuard :: rest)
    (op : OpCode) (args env : Env) (henv : bindArgs args d.params = .ok env)
    (hbs : env.get? "blocksize" = some (.int 0)) :
    build d op args = .error .missingBlocksize := by
  apply build_guard_fires hg henv (v := .bool true)
  · simp [eval, hbs, bind, Except.bind, pyEq]
  · rfl

/-- WRITE SAME(16): refused when NDOB is not set -/
theorem zero_blocksize_refused_unless (d : CmdDesc) (flag : String) (rest : List (Expr × PyErr))
    (hg : d.guards = bsGuardUnless flag :: rest)
    (op : OpCode) (args env : Env) (henv : bindArgs args d.params = .ok env)
    (hbs : env.get? "blocksize" = some (.int 0)) (fv : PVal) (hf : env.get? flag = some fv)
    (hft : fv.truthy = false) :
    build d op args = .error .missingBlocksize := by
  apply build_guard_fires hg henv (v := .bool true)
  · simp [eval, hbs, hf, bind, Except.bind, pyEq, hft]
  · rfl

/-- … and a non-zero block size never trips the guard (no spurious refusal) -/
theorem nonzero_blocksize_passes (op : OpCode) (env : Env) (n : Nat) (hn : n ≠ 0)
    (hbs : env.get? "blocksize" = some (.int n)) :
    evalGuards op env [bsGuard] = .ok () := by
  simp [evalGuards, bsGuard, eval, hbs, bind, Except.bind, pyEq, PVal.truthy, hn]

def firstGuardIs (module cls : String) (g : Expr × PyErr) : Bool :=
  match (Gen.commands.find? (fun c => c.1 == module && c.2.1.cls == cls)).map (·.2.1) with
  | some d => d.guards.head? == some g
  | none => false

/-- the constructors that transfer logical blocks, each with the guard its `__init__` starts with -/
def guarded : List (String × String × (Expr × PyErr)) :=
  [("scsi_cdb_read10", "Read10", bsGuard), ("scsi_cdb_read12", "Read12", bsGuard),
   ("scsi_cdb_read16", "Read16", bsGuard), ("scsi_cdb_write10", "Write10", bsGuard),
   ("scsi_cdb_write12", "Write12", bsGuard), ("scsi_cdb_write16", "Write16", bsGuard),
   ("scsi_cdb_writesame10", "WriteSame10", bsGuard), ("scsi_cdb_writesame16", "WriteSame16", bsGuardUnless "ndob")]

/-- the rows share the look-ups in `Gen.commands` -/
theorem all_guarded : guarded.all (fun g => firstGuardIs g.1 g.2.1 g.2.2) = true := by decide +kernel

theorem guard_at (i : Nat) (h : i < guarded.length := by decide) :
    firstGuardIs guarded[i].1 guarded[i].2.1 guarded[i].2.2 = true :=
  List.all_eq_true.mp all_guarded _ (List.getElem_mem h)

theorem read10_guard : firstGuardIs "scsi_cdb_read10" "Read10" bsGuard = true := guard_at 0
theorem read12_guard : firstGuardIs "scsi_cdb_read12" "Read12" bsGuard = true := guard_at 1
theorem read16_guard : firstGuardIs "scsi_cdb_read16" "Read16" bsGuard = true := guard_at 2
theorem write10_guard : firstGuardIs "scsi_cdb_write10" "Write10" bsGuard = true := guard_at 3
theorem write12_guard : firstGuardIs "scsi_cdb_write12" "Write12" bsGuard = true := guard_at 4
theorem write16_guard : firstGuardIs "scsi_cdb_write16" "Write16" bsGuard = true := guard_at 5
theorem writesame10_guard : firstGuardIs "scsi_cdb_writesame10" "WriteSame10" bsGuard = true := guard_at 6
theorem writesame16_guard :
    firstGuardIs "scsi_cdb_writesame16" "WriteSame16" (bsGuardUnless "ndob") = true := guard_at 7

/-- only the second branch of `ataBlock` (sector-counted transfer, no block size) is an error -/
theorem ataBlock_error_iff (tLength byteBlock tType blocksize : Nat) (e : PyErr) :
    ataBlock tLength byteBlock tType blocksize = .error e
      ↔ e = .missingBlocksize ∧ byteBlock ≠ 0 ∧ tType ≠ 0 ∧ tLength ≠ 0 ∧ blocksize = 0 := by
  unfold ataBlock
  by_cases h0 : tLength = 0
  · simp [h0]
  · by_cases hbb : byteBlock = 0
    · simp [h0, hbb]
    · by_cases htt : tType = 0
      · simp [h0, hbb, htt]
      · by_cases hbs : blocksize = 0 <;> simp [h0, hbb, htt, hbs, eq_comm]

/-- `ataBuffers` fails only where `ataBlock` does: once a block length is known both buffers exist -/
theorem ataBuffers_error_iff (tLength byteBlock tDir tType fetures count blocksize : Nat) (extraTl : Option Nat)
    (data : Option Bytes) (e : PyErr) :
    ataBuffers tLength byteBlock tDir tType fetures count blocksize extraTl data = .error e
      ↔ e = .missingBlocksize ∧ byteBlock ≠ 0 ∧ tType ≠ 0 ∧ tLength ≠ 0 ∧ blocksize = 0 := by
  rw [← ataBlock_error_iff]
  unfold ataBuffers
  cases ataBlock tLength byteBlock tType blocksize with
  | error e' => simp
  | ok b =>
    simp only [reduceCtorEq, iff_false]
    -- with caller-supplied data (either direction) or without, the result is `.ok`
    split
    · split <;> nofun
    · nofun

/-- ATA PASS-THROUGH: refused **exactly** when the transfer is counted in logical sectors
(BYTE_BLOCK and T_TYPE set, T_LENGTH non-zero) and no block size is given; for all other arguments. -/
theorem ata_refused_iff (tLength byteBlock tDir tType fetures count blocksize : Nat) (extraTl : Option Nat)
    (data : Option Bytes) :
    ataBuffers tLength byteBlock tDir tType fetures count blocksize extraTl data = .error .missingBlocksize
      ↔ (byteBlock ≠ 0 ∧ tType ≠ 0 ∧ tLength ≠ 0 ∧ blocksize = 0) := by
  simp [ataBuffers_error_iff]

/-- … and it is never refused with anything else -/
theorem ata_only_error (tLength byteBlock tDir tType fetures count blocksize : Nat) (extraTl : Option Nat)
    (data : Option Bytes) (e : PyErr)
    (h : ataBuffers tLength byteBlock tDir tType fetures count blocksize extraTl data = .error e) :
    e = .missingBlocksize := ((ataBuffers_error_iff ..).mp h).1

/-- no constructor ever yields a command for an operation code whose group has no fixed length
(variable-length 7Fh, reserved 60h–7Eh, vendor-specific C0h–FFh): for every class, all arguments -/
theorem refused_opcode (d : CmdDesc) (op : OpCode) (args : Env)
    (hno : initCdbLen op.value = .error .opcodeException) :
    ∀ c, build d op args ≠ .ok c := by
  intro c h
  obtain ⟨_, _, built⟩ := build_ok h
  obtain ⟨L, _, hL, _⟩ := built.cdb
  rw [hno] at hL
  cases hL

/-- for **all 256** operation-code values: if SAM gives the group no fixed length, `init_cdb`
raises `OpcodeException` (and by `refused_opcode` no constructor returns a command) -/
theorem unfixed_length_refused (v : Nat) (hv : v < 256) (hs : samLen v = none) :
    initCdbLen v = .error .opcodeException :=
  C14.initCdbLen_of_samLen_none v hs

/-- **for all service-action integers** outside the four the opcode object lists, the facade's
dispatch raises `ValueError` (before any command object exists) -/
theorem unknown_pr_in_service_action (sas : List (String × Nat)) (sa k r c f : Nat)
    (hk : (sas.find? (·.1 == "READ_KEYS")).map (·.2) = some k)
    (hr : (sas.find? (·.1 == "READ_RESERVATION")).map (·.2) = some r)
    (hc : (sas.find? (·.1 == "REPORT_CAPABILITIES")).map (·.2) = some c)
    (hf : (sas.find? (·.1 == "READ_FULL_STATUS")).map (·.2) = some f)
    (h1 : sa ≠ k) (h2 : sa ≠ r) (h3 : sa ≠ c) (h4 : sa ≠ f) :
    prInDispatch sas sa = .error .valueError := by
  simp [prInDispatch, hk, hr, hc, hf, h1, h2, h3, h4, bind, Except.bind]

/-- **for all Python integers, negative ones included**: outside the four listed values the dispatch raises `ValueError` -/
theorem unknown_pr_in_service_action_int (sas : List (String × Nat)) (sa : Int) (k r c f : Nat)
    (hk : (sas.find? (·.1 == "READ_KEYS")).map (·.2) = some k)
    (hr : (sas.find? (·.1 == "READ_RESERVATION")).map (·.2) = some r)
    (hc : (sas.find? (·.1 == "REPORT_CAPABILITIES")).map (·.2) = some c)
    (hf : (sas.find? (·.1 == "READ_FULL_STATUS")).map (·.2) = some f)
    (h1 : sa ≠ k) (h2 : sa ≠ r) (h3 : sa ≠ c) (h4 : sa ≠ f) :
    prInDispatchInt sas sa = .error .valueError := by
  unfold prInDispatchInt
  by_cases hneg : sa < 0
  · rw [if_pos hneg]
    simp [hk, hr, hc, hf, bind, Except.bind]
  · rw [if_neg hneg]
    have e : (sa.toNat : Int) = sa := Int.toNat_of_nonneg (by omega)
    have cast : ∀ n : Nat, sa ≠ n → sa.toNat ≠ n := fun n hn h => hn (by rw [← e, h])
    exact unknown_pr_in_service_action sas sa.toNat k r c f hk hr hc hf (cast k h1) (cast r h2) (cast c h3) (cast f h4)

def prInOp (set : List (String × OpCode)) : Option OpCode :=
  (set.find? (·.1 == "PERSISTENT_RESERVE_IN")).map (·.2)

def prClass (sas : List (String × Nat)) (sa : Nat) : Option String := (prInDispatch sas sa).toOption

/-- the four known service actions select their class on every command set that lists the
command (so the refusal is not over-broad) -/
theorem known_pr_in_service_actions :
    Gen.sets.all (fun s => match prInOp s.2 with
      | none => true
      | some op =>
        prClass op.sas 0 == some "PersistentReserveInReadKeys" &&
        prClass op.sas 1 == some "PersistentReserveInReadReservation" &&
        prClass op.sas 2 == some "PersistentReserveInReportCapabilities" &&
        prClass op.sas 3 == some "PersistentReserveInReadFullStatus") = true := by
  decide +kernel

example : (ataBuffers 2 1 0 1 7 9 0 none none).toOption = none ∧ (ataBuffers 2 1 0 1 7 9 512 none none).toOption.isSome = true := by decide +kernel

end C17
