import ScsiVerif.Props.C04
import ScsiVerif.Lemmas.Reserved
/-!
# C04 (continued) — REPORT PRIORITY and REPORT TARGET PORT GROUPS, whole responses

`Std.DataIn2` states the responses with variable-length descriptors as whole responses (headers with
the standards' length fields, descriptors of variable length).  The theorems make the claim of `Props/C04`
for them, for **all** descriptor counts and descriptor lengths that fit the length fields.
-/
namespace C04
open Conv PVal Std DataCompat DecL

attribute [local simp] enc_length toBytes_length priorityDescriptor tpgDescriptor targetPortDescriptor rtpgExtHeader

def prioReported (d : Vals × Bytes) : PV :=
  .dict (reported Gen.ReportPriority_data_bits d.1 ++ [("transport_id", .bytes d.2)])

/-- `adlen`: ADDITIONAL DESCRIPTOR LENGTH, the length of the TransportID that follows -/
def PrioOK (d : Vals × Bytes) : Prop := InRangeD priorityDescriptor.rel d.1 ∧ d.1 "adlen" = d.2.length

theorem prio_adlen : isBits Gen.ReportPriority_data_bits "adlen" = true := by decide

theorem prio_new (v : Vals) : "transport_id" ∉ (reported Gen.ReportPriority_data_bits v).map (·.1) := by
  rw [reported_keys]; decide

theorem priorityDescriptors_step (d : Vals × Bytes) (rest : Bytes) (h : PrioOK d) :
    Dec.priorityDescriptors (encPriorityDescriptor d ++ rest) = (Dec.priorityDescriptors rest).map (prioReported d :: ·) := by
  unfold encPriorityDescriptor
  rw [List.append_assoc, Dec.priorityDescriptors, dif_neg (by simp)]
  rw [decodeInto_std_nil Gen.ReportPriority_data_bits priorityDescriptor (tables_at 23) d.1 h.1]
  dsimp only
  rw [getInt_reported _ d.1 "adlen" prio_adlen, h.2]
  dsimp only
  rw [slice_at _ _ _ 8 _ (by simp) rfl, ← List.append_assoc, List.drop_left' (by simp; omega),
    set_new _ _ _ (prio_new d.1)]
  cases Dec.priorityDescriptors rest <;> rfl

theorem priorityDescriptors_std (ds : List (Vals × Bytes)) (h : ∀ d ∈ ds, PrioOK d) :
    Dec.priorityDescriptors (ds.map encPriorityDescriptor).flatten = .ok (ds.map prioReported) :=
  loop_std _ PrioOK _ _ (by unfold Dec.priorityDescriptors; rfl) priorityDescriptors_step ds h

theorem encPriorityDescriptors_length (ds : List (Vals × Bytes)) :
    (ds.map encPriorityDescriptor).flatten.length = prioBodyLen ds :=
  flatten_length _ (fun d => 8 + d.2.length) ds (fun d _ => by simp [encPriorityDescriptor])

/-- REPORT PRIORITY: every priority descriptor inside PRIORITY PARAMETER DATA LENGTH (n−3), whole
    (header and its TransportID of ADDITIONAL DESCRIPTOR LENGTH bytes) and in order; nothing beyond -/
theorem reportPriority_decodes (ds : List (Vals × Bytes)) (h : ∀ d ∈ ds, PrioOK d)
    (hfit : prioBodyLen ds < 2 ^ 32) (tr : Bytes) :
    Dec.reportPriority (encReportPriority ds ++ tr) =
      .ok (.dict [("priority_descriptors", .list (ds.map prioReported))]) := by
  unfold Dec.reportPriority encReportPriority
  rw [List.append_assoc, b2i_head _ 4 _ hfit,
    slice_at _ _ _ 4 _ (by simp) (by rw [encPriorityDescriptors_length, Nat.add_comm]),
    priorityDescriptors_std ds h]
  rfl

/-- the hypotheses are satisfiable by a non-trivial response (two descriptors, one with a 24-byte
    TransportID, one without) -/
example : ∃ ds : List (Vals × Bytes), ds.length = 2 ∧ (∀ d ∈ ds, PrioOK d) ∧ prioBodyLen ds < 2 ^ 32 :=
  ⟨[(fun k => if k = "adlen" then 24 else if k = "rtpi" then 7 else 3, List.replicate 24 0xAB),
    (fun k => if k = "adlen" then 0 else 1, [])], rfl, by unfold PrioOK; decide, by decide⟩

theorem tpgd_c : compatible Gen.ReportTargetPortGroups_tpgd_bits tpgDescriptor.rel 8 = true := tables_at 24
theorem tport_f : formatOK targetPortDescriptor.len targetPortDescriptor.rel = true := by decide +kernel

def TpgOK (g : Vals × List Vals) : Prop :=
  InRangeD tpgDescriptor.rel g.1 ∧ g.1 "target_port_count" = g.2.length ∧
  ∀ p ∈ g.2, InRangeD targetPortDescriptor.rel p

def portReported (p : Vals) : PV := .dict [("relative_target_port_id", .int (p "relative_target_port_id"))]

def tpgReported (g : Vals × List Vals) : PV :=
  .dict (reported Gen.ReportTargetPortGroups_tpgd_bits g.1 ++ [("target_ports", .list (g.2.map portReported))])

theorem tpg_new (v : Vals) : "target_ports" ∉ (reported Gen.ReportTargetPortGroups_tpgd_bits v).map (·.1) := by
  rw [reported_keys]; decide

theorem encTpg_length (g : Vals × List Vals) : (encTpg g).length = 8 + 4 * g.2.length := by
  unfold encTpg
  rw [List.length_append, items_length _ 4 g.2 (fun p _ => by simp)]
  simp

theorem tpgChunks_step (g : Vals × List Vals) (rest : Bytes) (h : TpgOK g) :
    Dec.tpgChunks (encTpg g ++ rest) = encTpg g :: Dec.tpgChunks rest := by
  have hl := encTpg_length g
  rw [Dec.tpgChunks, dif_neg (by rw [List.length_append]; omega)]
  have h7 : (encTpg g ++ rest)[7]? = some g.2.length := by
    unfold encTpg
    rw [List.append_assoc, ← h.2.1]
    exact byte_key tpgDescriptor (compatible_format tpgd_c) g.1 h.1 _ "target_port_count" 7 (by decide)
  have hn : 8 + 4 * ((pieces 4 ((encTpg g ++ rest).drop 8)).take g.2.length).length = (encTpg g).length := by
    unfold encTpg
    rw [List.append_assoc, List.drop_left' (by simp), pieces_items_append _ 4 (by decide) g.2 (fun _ _ => by simp),
      List.take_left' (by simp), List.length_map, ← hl]
    rfl
  -- the loop body reads the port count at byte 7 and cuts `8 + 4 * count` bytes off: `h7` and `hn` say that this is `encTpg g`
  simp only [h7, Option.getD_some, hn, List.take_left' rfl, List.drop_left' rfl]

theorem targetPorts_std (ps : List Vals) (h : ∀ p ∈ ps, InRangeD targetPortDescriptor.rel p) :
    (Dec.targetPorts (ps.map targetPortDescriptor.enc).flatten ps.length).1 = ps.map portReported := by
  unfold Dec.targetPorts
  simp only
  rw [pieces_items _ 4 (by decide) ps (fun p _ => by simp), List.take_of_length_le (by simp), List.map_map]
  apply List.map_congr_left
  intro p hp
  have := b2i_slice_key targetPortDescriptor tport_f p (h p hp) [] "relative_target_port_id" 2 2 (by decide)
  simp only [Nat.reduceAdd, List.append_nil] at this
  simp only [Function.comp, portReported, this]

theorem tpg_one (g : Vals × List Vals) (h : TpgOK g) :
    (do let (t, cnt) ← Dec.tpgHeader (encTpg g)
        pure (PV.dict (t.set "target_ports" (.list (Dec.targetPorts ((encTpg g).drop 8) cnt).1)))) = .ok (tpgReported g) := by
  unfold Dec.tpgHeader encTpg
  rw [decodeInto_std_nil _ _ tpgd_c g.1 h.1, bind_ok,
    getInt_reported _ g.1 "target_port_count" (by decide), bind_ok, h.2.1]
  simp only [pure, Except.pure, bind_ok]
  rw [List.drop_left' (by simp), targetPorts_std g.2 h.2.2, set_new _ _ _ (tpg_new g.1)]
  rfl

theorem tpgDescriptors_std (gs : List (Vals × List Vals)) (h : ∀ g ∈ gs, TpgOK g) :
    Dec.tpgDescriptors (gs.map encTpg).flatten = .ok (gs.map tpgReported) :=
  chunked_std encTpg TpgOK _ _ _ (by unfold Dec.tpgChunks; rfl) tpgChunks_step gs h tpg_one

theorem encTpgs_length (gs : List (Vals × List Vals)) : (gs.map encTpg).flatten.length = tpgBodyLen gs :=
  flatten_length _ (fun g => 8 + 4 * g.2.length) gs (fun g _ => encTpg_length g)

/-- REPORT TARGET PORT GROUPS, extended header format: FORMAT TYPE and IMPLICIT TRANSITION TIME, then
    every target port group descriptor inside RETURN DATA LENGTH (n−3) with all its target ports -/
theorem rtpg_ext_decodes (hv : Vals) (gs : List (Vals × List Vals)) (hh : InRangeD rtpgExtHeader.rel hv)
    (hft : hv "format_type" = 1) (h : ∀ g ∈ gs, TpgOK g) (hfit : 4 + tpgBodyLen gs < 2 ^ 32) (tr : Bytes) :
    Dec.reportTargetPortGroups (encRtpgExt hv gs ++ tr) =
      .ok (.dict [("format_type", .int 1), ("implicit_transition_time", .int (hv "implicit_transition_time")),
                  ("target_port_group_descriptors", .list (gs.map tpgReported))]) := by
  unfold Dec.reportTargetPortGroups encRtpgExt
  simp only [List.append_assoc]
  rw [b2i_head _ 4 _ hfit, ← List.append_assoc (rtpgExtHeader.enc hv),
    slice_at _ _ _ 4 _ (by simp) (by rw [List.length_append, encTpgs_length]; simp; omega)]
  rw [if_pos (by simp), decodeInto_std_nil Gen.ReportTargetPortGroups_ext_hdr_bits rtpgExtHeader (tables_at 25) hv hh, bind_ok,
    getInt_reported _ hv "format_type" (by decide), bind_ok, hft, if_pos rfl,
    getInt_reported _ hv "implicit_transition_time" (by decide), bind_ok]
  simp only [pure, Except.pure, bind_ok]
  rw [List.drop_left' (by simp), tpgDescriptors_std gs h]
  rfl

/-- in a target port group descriptor the bits the extended header's table calls FORMAT TYPE
    (byte 0, bits 6–4) are reserved -/
theorem exth_on_tpg : tableOK Gen.ReportTargetPortGroups_ext_hdr_bits = true ∧
    reservedKey tpgDescriptor.len tpgDescriptor.rel Gen.ReportTargetPortGroups_ext_hdr_bits "format_type" = true := by
  decide +kernel

/-- REPORT TARGET PORT GROUPS, length only header format: every target port group descriptor inside
    RETURN DATA LENGTH (n−3) with all its target ports, in order; FORMAT TYPE reported as 0 -/
theorem rtpg_decodes (gs : List (Vals × List Vals)) (h : ∀ g ∈ gs, TpgOK g) (hfit : tpgBodyLen gs < 2 ^ 32) (tr : Bytes) :
    Dec.reportTargetPortGroups (encRtpg gs ++ tr) =
      .ok (.dict [("format_type", .int 0), ("target_port_group_descriptors", .list (gs.map tpgReported))]) := by
  unfold Dec.reportTargetPortGroups encRtpg
  rw [List.append_assoc, b2i_head _ 4 _ hfit, slice_at _ _ _ 4 _ (by simp) (by rw [encTpgs_length, Nat.add_comm])]
  dsimp only
  have hds := tpgDescriptors_std gs h
  cases gs with
  | nil =>
    rw [if_neg (by decide)]
    simp only [pure, Except.pure, bind_ok]
    rw [hds]
    rfl
  | cons g gs =>
    rw [if_pos (by simp [encTpg_length]; omega)]
    simp only [List.map_cons, List.flatten_cons, encTpg, List.append_assoc] at hds ⊢
    -- FORMAT TYPE is read from byte 0 of the first descriptor, where its bits are reserved
    obtain ⟨r, hr1, hr2⟩ := decodeInto_reserved tpgDescriptor (compatible_format tpgd_c) g.1 (h g (by simp)).1
      ((g.2.map targetPortDescriptor.enc).flatten ++ (gs.map encTpg).flatten)
      Gen.ReportTargetPortGroups_ext_hdr_bits exth_on_tpg.1 "format_type" exth_on_tpg.2
    rw [hr1, bind_ok, hr2, bind_ok, if_neg (by decide)]
    simp only [pure, Except.pure, bind_ok]
    rw [hds]
    rfl

/-- the hypotheses are satisfiable by a non-trivial response (two groups with 2 and 0 ports) -/
example : ∃ gs : List (Vals × List Vals), gs.length = 2 ∧ (∀ g ∈ gs, TpgOK g) ∧ tpgBodyLen gs < 2 ^ 32 :=
  ⟨[(fun k => if k = "target_port_count" then 2 else if k = "target_port_group" then 513 else 1, [fun _ => 7, fun _ => 65535]),
    (fun _ => 0, [])], rfl, by unfold TpgOK; decide +kernel, by decide⟩

end C04
