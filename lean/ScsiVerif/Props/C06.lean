import ScsiVerif.Props.C02
import ScsiVerif.Props.C05
/-!
# C06 — parameter data survives a build/parse round trip and read-modify-write

The builders (`Enc.*`) and parsers (`Dec.*`) apply the same regenerated layout tables through
`encode_dict` / `decode_bits`.  `reparse_built`, `rebuild_canonical` and `rmw_only_field_bits` hold for every table
that is well formed and conforms to the standard's block (`C05.all_parameter_tables_conform`,
`all_two_way_tables_conform`); `swp_changes_only_swp` is the `tools/swp.py` instance of the third.
-/
namespace C06
open Conv Std DataCompat

/-- every field of the standard's block has an entry in the library table (then nothing is lost
    when a response is parsed and rebuilt) -/
def covers (lay : Layout) (b : Block) : Bool := b.rel.all (fun g => (layoutGet? lay g.key).isSome)

/-- the set bits of the standard's structure: those set in the value of the field they lie in -/
theorem testBit_enc (b : Block) (hf : formatOK b.len b.rel = true) (v : Vals) (hr : InRangeD b.rel v) (i : Nat) :
    (baToInt (b.enc v)).testBit i = true ↔
      ∃ g ∈ b.rel, (g.lsb b.len ≤ i ∧ i < g.lsb b.len + g.width) ∧ (v g.key).testBit (i - g.lsb b.len) = true := by
  unfold Block.enc
  rw [(encodeD_facts b.len b.rel hf v hr).2.2, testBit_xorAll (termsD_ok hr) (termsD_disj hf v)]
  constructor
  · rintro ⟨t, ht, h⟩
    obtain ⟨g, hg, rfl⟩ := List.mem_map.mp ht
    exact ⟨g, hg, h⟩
  · rintro ⟨g, hg, h⟩
    exact ⟨_, List.mem_map.mpr ⟨g, hg, rfl⟩, h⟩

/-- **bytes → dict → bytes**: parsing the standard's structure and rebuilding what was parsed
reproduces it byte for byte (for every block all of whose fields the library's table knows). -/
theorem rebuild_canonical (b : Block) (lay : Layout) (hOK : C05.pairOK (b, lay) = true) (hcov : covers lay b = true)
    (v : Vals) (hr : InRangeD b.rel v) :
    ∃ d, decodeBits (b.enc v) lay [] = .ok d ∧ encodeDict d lay (zeros b.len) = .ok (b.enc v) := by
  obtain ⟨hwf, hc⟩ := C05.pairOK_iff.mp hOK
  have hf := compatible_format hc
  obtain ⟨hb, hl, _⟩ := encodeD_facts b.len b.rel hf v hr
  -- `C02.encode_decode` applies: every set bit of the structure lies in a standard field, and the table has that field
  apply C02.encode_decode lay b.len hwf (b.enc v) hb hl
  intro i hi
  obtain ⟨g, hg, hti, _⟩ := (testBit_enc b hf v hr i).mp hi
  obtain ⟨f, hget⟩ := Option.isSome_iff_exists.mp (List.all_eq_true.mp hcov g hg)
  obtain ⟨m, off, rfl, _⟩ := wf_entry hwf hget
  obtain ⟨hlsb, hw⟩ := compat_std hc hg hget
  exact ⟨_, m, off, Assoc.find_mem hget, by rw [hlsb]; exact hti.1, by rw [hlsb, hw]; exact hti.2⟩

/-- … and what was parsed is `expected lay v`, the table's keys with the device's values -/
theorem rebuild_expected (b : Block) (lay : Layout) (hOK : C05.pairOK (b, lay) = true) (hcov : covers lay b = true)
    (v : Vals) (hr : InRangeD b.rel v) :
    decodeBits (b.enc v) lay [] = .ok (expected lay v) ∧ encodeDict (expected lay v) lay (zeros b.len) = .ok (b.enc v) := by
  have hexp := compatible_sound lay b.rel b.len (C05.pairOK_iff.mp hOK).2 v hr []
  rw [List.append_nil] at hexp
  obtain ⟨d, hd, he⟩ := rebuild_canonical b lay hOK hcov v hr
  cases hd.symm.trans hexp
  exact ⟨hexp, he⟩

/-- **dict → bytes → dict**: building from the values `d` supplies and parsing the result returns,
for every key of the table, the value supplied (0 for keys not supplied). -/
theorem reparse_built (b : Block) (lay : Layout) (hOK : C05.pairOK (b, lay) = true) (d : Dict)
    (hr : InRange lay d) (hk : KeysDistinct d) :
    ∃ r out, encodeDict d lay (zeros b.len) = .ok r ∧ decodeBits r lay [] = .ok out ∧
      (∀ k m off n, layoutGet? lay k = some (.bits m off) → (k, Val.int n) ∈ d → dictGet? out k = some (.int n)) ∧
      (∀ k m off, layoutGet? lay k = some (.bits m off) → (∀ kv ∈ d, kv.1 ≠ k) → dictGet? out k = some (.int 0)) := by
  obtain ⟨cdb, out, h1, _, h3, h4, h5, _⟩ := C02.decode_encode lay b.len (C05.pairOK_iff.mp hOK).1 d hr hk
  exact ⟨cdb, out, h1, h3, h4, h5⟩

/-- **read-modify-write changes only that field's bits**: two structures of the same block whose
values differ only in field `g` agree in every bit outside `g`. -/
theorem rmw_only_field_bits (b : Block) (hf : formatOK b.len b.rel = true) (v v' : Vals)
    (hr : InRangeD b.rel v) (hr' : InRangeD b.rel v') (g : DField) (hg : g ∈ b.rel)
    (hsame : ∀ g' ∈ b.rel, g' ≠ g → v g'.key = v' g'.key) (i : Nat)
    (hi : ¬ (g.lsb b.len ≤ i ∧ i < g.lsb b.len + g.width)) :
    (baToInt (b.enc v)).testBit i = (baToInt (b.enc v')).testBit i := by
  rw [Bool.eq_iff_iff, testBit_enc b hf v hr, testBit_enc b hf v' hr']
  -- a field that `i` lies in is other than `g`, and there the values agree
  refine exists_congr fun g' => and_congr_right fun hg' => and_congr_right fun hti => ?_
  rw [hsame g' hg' fun e => hi (e ▸ hti)]

/-- (standard block, library table) of every structure the library both builds and parses -/
def twoWay : List (Block × Layout) := [
  (readCapacity10, Gen.ReadCapacity10_datain_bits), (readCapacity16, Gen.ReadCapacity16_datain_bits),
  (lbaStatusDescriptor, Gen.GetLBAStatus_datain_bits), (lunEntry, Gen.ReportLuns_datain_bits),
  (tpgDescriptor, Gen.ReportTargetPortGroups_tpgd_bits), (rtpgExtHeader, Gen.ReportTargetPortGroups_ext_hdr_bits),
  (priorityDescriptor, Gen.ReportPriority_data_bits),
  (elementStatusHeader, Gen.ReadElementStatus_datain_bits), (elementStatusPage, Gen.ReadElementStatus_element_status_page_bits),
  (elementDescriptor, Gen.ReadElementStatus_element_status_descriptor_bits),
  (elementDescriptor, Gen.ReadElementStatus_import_export_descriptor_bits),
  (vpdLbp, Gen.Inquiry_logical_block_provisioning_bits), (vpdReferrals, Gen.Inquiry_referrals_bits),
  (vpdExtended, Gen.Inquiry_extended_bits), (designationDescriptor, Gen.Inquiry_designator_bits),
  (naaIeeeExtended, Gen.Inquiry_naa_ieee_extended_bits), (naaLocallyAssigned, Gen.Inquiry_naa_locally_assigned_bits),
  (naaIeeeRegistered, Gen.Inquiry_naa_ieee_registered_bits),
  (naaIeeeRegisteredExtended, Gen.Inquiry_naa_ieee_registered_extended_bits),
  (relativePortDesignator, Gen.Inquiry_relative_port_bits), (targetPortGroupDesignator, Gen.Inquiry_target_portal_group_bits),
  (logicalUnitGroupDesignator, Gen.Inquiry_logical_unit_group_bits),
  (modeHeader6, Gen.MODESENSE6_mode_parameter_header_bits), (modeHeader10, Gen.MODESENSE10_mode_parameter_header_bits),
  (modePage0Header, Gen.MODESENSE6_page_zero_bits), (modeSubPageHeader, Gen.MODESENSE6_sub_page_bits),
  (modeControl, Gen.MODESENSE6_control_bits), (modeControlExt, Gen.MODESENSE6_control_extension_1_bits),
  (modeDisconnect, Gen.MODESENSE6_disconnect_reconnect_bits), (modeElementAddress, Gen.MODESENSE6_element_address_bits),
  (modeControl, Gen.MODESENSE10_control_bits), (modeControlExt, Gen.MODESENSE10_control_extension_1_bits),
  (modeDisconnect, Gen.MODESENSE10_disconnect_reconnect_bits), (modeElementAddress, Gen.MODESENSE10_element_address_bits),
  (transportIdHeader, Gen.PersistentReserveInReadFullStatus_transport_id_bits)]

/-- the blocks whose every field the library reports.  Rows are used by position (`fullyCovered_at`, the number at
the end of a line is that of its first row), so a new row goes at the end. -/
def fullyCovered : List (Block × Layout) := [
  (readCapacity10, Gen.ReadCapacity10_datain_bits), (readCapacity16, Gen.ReadCapacity16_datain_bits),   -- 0
  (lbaStatusDescriptor, Gen.GetLBAStatus_datain_bits), (lunEntry, Gen.ReportLuns_datain_bits),   -- 2
  (tpgDescriptor, Gen.ReportTargetPortGroups_tpgd_bits), (priorityDescriptor, Gen.ReportPriority_data_bits),   -- 4
  (relativePortDesignator, Gen.Inquiry_relative_port_bits), (targetPortGroupDesignator, Gen.Inquiry_target_portal_group_bits),   -- 6
  (logicalUnitGroupDesignator, Gen.Inquiry_logical_unit_group_bits),   -- 8
  (modeControl, Gen.MODESENSE6_control_bits), (modeControlExt, Gen.MODESENSE6_control_extension_1_bits),   -- 9
  (modeDisconnect, Gen.MODESENSE6_disconnect_reconnect_bits), (modeElementAddress, Gen.MODESENSE6_element_address_bits),   -- 11
  (modeControl, Gen.MODESENSE10_control_bits), (modeControlExt, Gen.MODESENSE10_control_extension_1_bits),   -- 13
  (modeDisconnect, Gen.MODESENSE10_disconnect_reconnect_bits), (modeElementAddress, Gen.MODESENSE10_element_address_bits),   -- 15
  (transportIdHeader, Gen.PersistentReserveInReadFullStatus_transport_id_bits)]   -- 17

/-- Every pair of `fullyCovered` is a pair of `twoWay`: the second fact re-uses the work of the first. -/
theorem decided :
    twoWay.all C05.pairOK = true ∧ fullyCovered.all (fun x => C05.pairOK x && covers x.2 x.1) = true := by decide +kernel

/-- every two-way table is a well-formed bit-field table sitting on the standard's block -/
theorem all_two_way_tables_conform : twoWay.all C05.pairOK = true := decided.1

theorem fully_covered_ok : fullyCovered.all (fun x => C05.pairOK x && covers x.2 x.1) = true := decided.2

theorem fullyCovered_at (i : Nat) (h : i < fullyCovered.length := by decide) :
    C05.pairOK fullyCovered[i] = true ∧ covers fullyCovered[i].2 fullyCovered[i].1 = true := by
  simpa only [Bool.and_eq_true] using List.all_eq_true.mp fully_covered_ok _ (List.getElem_mem h)

theorem modeControl_row : C05.pairOK (modeControl, Gen.MODESENSE6_control_bits) = true ∧
    covers Gen.MODESENSE6_control_bits modeControl = true := fullyCovered_at 9

/-- READ CAPACITY(16), as an instance: rebuilding the parsed response reproduces it -/
theorem readCapacity16_rebuild (v : Vals) (hr : InRangeD readCapacity16.rel v) :
    ∃ d, decodeBits (readCapacity16.enc v) Gen.ReadCapacity16_datain_bits [] = .ok d ∧
      encodeDict d Gen.ReadCapacity16_datain_bits (zeros 32) = .ok (readCapacity16.enc v) :=
  rebuild_canonical readCapacity16 _ (fullyCovered_at 1).1 (fullyCovered_at 1).2 v hr

/-- the Control mode page body: parse → rebuild is the identity on canonical pages -/
theorem control_page_rebuild (v : Vals) (hr : InRangeD modeControl.rel v) :
    ∃ d, decodeBits (modeControl.enc v) Gen.MODESENSE6_control_bits [] = .ok d ∧
      encodeDict d Gen.MODESENSE6_control_bits (zeros 10) = .ok (modeControl.enc v) :=
  rebuild_canonical modeControl _ modeControl_row.1 modeControl_row.2 v hr

/-- flipping SWP (Control mode page byte 4, bit 3) and writing the page back leaves every other bit
of the page body as the device reported it -/
theorem swp_changes_only_swp (v v' : Vals) (hr : InRangeD modeControl.rel v) (hr' : InRangeD modeControl.rel v')
    (hsame : ∀ g' ∈ modeControl.rel, g' ≠ (⟨"swp", 2, 3, 1⟩ : DField) → v g'.key = v' g'.key) (i : Nat) (hi : i ≠ 59) :
    (baToInt (modeControl.enc v)).testBit i = (baToInt (modeControl.enc v')).testBit i := by
  have hf := compatible_format (C05.pairOK_iff.mp modeControl_row.1).2
  exact rmw_only_field_bits modeControl hf v v' hr hr' ⟨"swp", 2, 3, 1⟩ (by decide) hsame i
    (show ¬(59 ≤ i ∧ i < 59 + 1) by omega)

end C06
