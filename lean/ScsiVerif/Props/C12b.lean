import ScsiVerif.Props.C12
import ScsiVerif.Props.C01
/-!
# C12 (continued) — the link to the library is a theorem, not a citation

`C12.Conformant cdb op lba tl` is what the conformant target needs of a READ/WRITE CDB.  Here it is
*proved* of every CDB the constructor model (`Cmd.build` on the constructor descriptions regenerated
from the source) builds for READ(10/12/16) and WRITE(10/12/16), on every command set, for all in-range
arguments — by composing `C01.cdb_meets_standard` with the target's reading of the bytes.  Together
with `read_returns_disk` / `disk_after_write` this closes the chain
caller's (lba, tl, data) → library CDB → target's decode → abstract disk.
-/
namespace C12
open Conv Cmd Std Compat Std.Target C01

/-- where SBC puts LBA and TRANSFER LENGTH for each CDB size: (LBA bytes, TL offset, TL bytes) -/
def rwShape : Nat → Option (Nat × Nat × Nat)
  | 10 => some (4, 7, 2)
  | 12 => some (4, 6, 4)
  | 16 => some (8, 10, 4)
  | _ => none

theorem be_eq_fieldOf (cdb : Conv.Bytes) (hb : BytesOK cdb) (b k : Nat) (name : String) (src : Src)
    (hk : b + k ≤ cdb.length) (hk0 : 0 < k) :
    be cdb b k = fieldOf cdb.length ⟨name, b, 7, 8 * k, src⟩ cdb := by
  unfold be
  rw [fieldOf_eq, beValue_eq_baToInt, Field.lsb]
  -- whole bytes: with `m = cdb.length - b ≥ 1`, `8 * (m - 1) + 8 - 8 * k = 8 * (m - k)`
  rw [Nat.sub_right_comm, Nat.add_assoc, ← Nat.mul_add_one,
    Nat.sub_add_cancel (Nat.sub_pos_of_lt (Nat.lt_of_lt_of_le (Nat.lt_add_of_pos_right hk0) hk)), ← Nat.mul_sub]
  have hs : (cdb.drop b).take k = slice cdb b (b + k) := by
    unfold slice
    rw [List.take_drop]
  rw [hs, baToInt_slice cdb hb b k hk]

theorem head_eq_be (cdb : Conv.Bytes) (h : 0 < cdb.length) : cdb.head? = some (be cdb 0 1) := by
  cases cdb with
  | nil => simp at h
  | cons x xs => simp [be, beValue]

/-- the one place where the three CDB sizes are told apart: what `rwShape` says is what `addr` reads -/
theorem addr_of_shape {cdb : Conv.Bytes} {kl ot kt : Nat} (hs : rwShape cdb.length = some (kl, ot, kt)) :
    addr cdb = (be cdb 2 kl, be cdb ot kt) ∧ (cdb.length = 10 ∨ cdb.length = 12 ∨ cdb.length = 16) ∧
    2 + kl ≤ cdb.length ∧ ot + kt ≤ cdb.length ∧ 0 < kl ∧ 0 < kt := by
  unfold addr
  generalize cdb.length = L at hs ⊢
  unfold rwShape at hs
  -- for each of the three sizes `addr` computes to what `rwShape` names; any other size has no shape
  split at hs <;> cases hs <;> exact ⟨rfl, by decide⟩

theorem conformant_of_fields {cdb : Conv.Bytes} (hb : BytesOK cdb) {L kl ot kt : Nat} (hL : cdb.length = L)
    (hs : rwShape L = some (kl, ot, kt)) {op lba tl : Nat} {n0 n1 n2 : String} {s0 s1 s2 : Src}
    (h0 : fieldOf L ⟨n0, 0, 7, 8 * 1, s0⟩ cdb = op) (h1 : fieldOf L ⟨n1, 2, 7, 8 * kl, s1⟩ cdb = lba)
    (h2 : fieldOf L ⟨n2, ot, 7, 8 * kt, s2⟩ cdb = tl) : Conformant cdb op lba tl := by
  subst hL
  obtain ⟨ha, hlen, b1, b2, p1, p2⟩ := addr_of_shape hs
  refine ⟨?_, hlen, ?_⟩
  · rw [head_eq_be cdb (by omega), be_eq_fieldOf cdb hb 0 1 n0 s0 (by omega) (by decide), h0]
  · rw [ha, be_eq_fieldOf cdb hb 2 kl n1 s1 b1 p1, be_eq_fieldOf cdb hb ot kt n2 s2 b2 p2, h1, h2]

/-- the standard's format has OPERATION CODE, LOGICAL BLOCK ADDRESS and the count field `n2` (argument `a2`) where
`rwShape` says for its CDB size -/
def shapeFieldsOK (n2 a2 : String) (s : Cdb) : Bool :=
  ((samLen s.opcode).bind rwShape).any fun (kl, ot, kt) =>
    s.fields.contains ⟨"OPERATION CODE", 0, 7, 8 * 1, .opcode⟩ &&
    s.fields.contains ⟨"LOGICAL BLOCK ADDRESS", 2, 7, 8 * kl, .arg "lba"⟩ &&
    s.fields.contains ⟨n2, ot, 7, 8 * kt, .arg a2⟩

theorem shapeFieldsOK_spec {n2 a2 : String} {s : Cdb} (h : shapeFieldsOK n2 a2 s = true) :
    ∃ L kl ot kt, samLen s.opcode = some L ∧ rwShape L = some (kl, ot, kt) ∧
      (⟨"OPERATION CODE", 0, 7, 8 * 1, .opcode⟩ : Field) ∈ s.fields ∧
      (⟨"LOGICAL BLOCK ADDRESS", 2, 7, 8 * kl, .arg "lba"⟩ : Field) ∈ s.fields ∧
      (⟨n2, ot, 7, 8 * kt, .arg a2⟩ : Field) ∈ s.fields := by
  simp only [shapeFieldsOK, Option.any_eq_true, Option.bind_eq_some_iff, Bool.and_eq_true, List.contains_iff_mem] at h
  obtain ⟨⟨kl, ot, kt⟩, ⟨L, hL, hsh⟩, h⟩ := h
  exact ⟨L, kl, ot, kt, hL, hsh, h.1.1, h.1.2, h.2⟩

/-- **a library-built READ/WRITE CDB is conformant** — for every command whose standard format carries OPERATION CODE,
    LOGICAL BLOCK ADDRESS and a count field at the SBC positions of its CDB size, on every command set, for all in-range
    arguments (the hypotheses of `C01.cdb_meets_standard`; its two obligations hold of every row of `Std.cdbs`) -/
theorem library_cdb_conformant {n2 a2 : String} {mc : String × String} {s : Cdb} (hs : stdOf mc.1 mc.2 = some s)
    (hsh : shapeFieldsOK n2 a2 s = true) {d : CmdDesc} (hd : genOf mc.1 mc.2 = some d)
    {setName : String} {set : List (String × OpCode)} (hset : (setName, set) ∈ Gen.sets)
    {op : OpCode} (hop : findOp set s.opName = some op)
    {args env : Env} {c : Command} (hb : build d op args = .ok c)
    (henv : bindArgs args d.params = .ok env) (hr : ArgsInRange s op env c.dataout)
    {lba tl : Nat} (hlba : srcVal op env c.dataout (.arg "lba") = some lba) (htl : srcVal op env c.dataout (.arg a2) = some tl) :
    Conformant c.cdb s.opcode lba tl := by
  obtain ⟨hcmd, hsets⟩ := ok_of_stdOf hs
  obtain ⟨L, kl, ot, kt, hLs, hshape, hopF, hlbaF, htlF⟩ := shapeFieldsOK_spec hsh
  obtain ⟨L', hL', hval, hlen, hf, _, _⟩ :=
    cdb_meets_standard mc.1 mc.2 s d hs hd hcmd hsets setName set hset op hop args env c hb henv hr
  obtain rfl : L' = L := Option.some.inj ((hval ▸ hL').symm.trans hLs)
  -- that the CDB's elements are bytes is not among the conclusions of `cdb_meets_standard`
  obtain ⟨_, _, hi, hc, _, _⟩ := obligations_spec hs hd hcmd hsets hset hop
  exact conformant_of_fields (compatible_bytesOK hc hi (.of_env hb henv) hr) hlen hshape
    (by rw [hf _ hopF op.value rfl, hval]) (hf _ hlbaF lba hlba) (hf _ htlF tl htl)

def rwCommands : List (String × String) :=
  [("scsi_cdb_read10", "Read10"), ("scsi_cdb_read12", "Read12"), ("scsi_cdb_read16", "Read16"),
   ("scsi_cdb_write10", "Write10"), ("scsi_cdb_write12", "Write12"), ("scsi_cdb_write16", "Write16")]

theorem rw_ok : rwCommands.all (fun mc => (stdOf mc.1 mc.2).any (shapeFieldsOK "TRANSFER LENGTH" "tl")) = true := by
  decide +kernel

/-- **end to end, write**: a WRITE the library builds for (lba, tl) with `tl × block size` bytes of data, executed by
    the conformant target, leaves exactly that data on the abstract disk at blocks lba … lba+tl−1 -/
theorem library_write_reaches_disk (mc : String × String) (hmc : mc ∈ rwCommands) (s : Cdb) (d : CmdDesc)
    (hs : stdOf mc.1 mc.2 = some s) (hd : genOf mc.1 mc.2 = some d) (hw : isWrite s.opcode)
    (setName : String) (set : List (String × OpCode)) (hset : (setName, set) ∈ Gen.sets)
    (op : OpCode) (hop : findOp set s.opName = some op)
    (args env : Env) (c : Command) (hb : build d op args = .ok c)
    (henv : bindArgs args d.params = .ok env) (hr : ArgsInRange s op env c.dataout)
    (lba tl : Nat) (hlba : srcVal op env c.dataout (.arg "lba") = some lba) (htl : srcVal op env c.dataout (.arg "tl") = some tl)
    (t : T) (hcap : lba + tl ≤ t.capacity) (data : Conv.Bytes) (hdl : data.length = tl * t.blockSize) :
    (step t c.cdb data 0).2.status = .good ∧
    (step t c.cdb data 0).1 = writeBlocks t lba (chunks t.blockSize tl data) :=
  write_updates_disk t c.cdb s.opcode lba tl
    (library_cdb_conformant hs (hs ▸ List.all_eq_true.mp rw_ok mc hmc) hd hset hop hb henv hr hlba htl) hw hcap data hdl

/-- **end to end, read**: a READ the library builds for (lba, tl) returns exactly blocks lba … lba+tl−1 of the abstract disk -/
theorem library_read_returns_disk (mc : String × String) (hmc : mc ∈ rwCommands) (s : Cdb) (d : CmdDesc)
    (hs : stdOf mc.1 mc.2 = some s) (hd : genOf mc.1 mc.2 = some d) (hrd : isRead s.opcode)
    (setName : String) (set : List (String × OpCode)) (hset : (setName, set) ∈ Gen.sets)
    (op : OpCode) (hop : findOp set s.opName = some op)
    (args env : Env) (c : Command) (hb : build d op args = .ok c)
    (henv : bindArgs args d.params = .ok env) (hr : ArgsInRange s op env c.dataout)
    (lba tl : Nat) (hlba : srcVal op env c.dataout (.arg "lba") = some lba) (htl : srcVal op env c.dataout (.arg "tl") = some tl)
    (t : T) (hcap : lba + tl ≤ t.capacity) (dout : Conv.Bytes) :
    step t c.cdb dout (tl * t.blockSize + 0) =
      (t, ⟨.good, ((List.range tl).flatMap (fun i => disk t (lba + i))).take (tl * t.blockSize)⟩) :=
  read_returns_disk t c.cdb s.opcode lba tl
    (library_cdb_conformant hs (hs ▸ List.all_eq_true.mp rw_ok mc hmc) hd hset hop hb henv hr hlba htl) hrd hcap dout

/-- non-vacuity: a concrete WRITE(16) built by the constructor model reaches the target's disk at the caller's LBA,
    and a READ(10) built by the constructor model returns it -/
example :
    (match genOf "scsi_cdb_write16" "Write16", genOf "scsi_cdb_read10" "Read10", findOp Gen.sbc "WRITE_16", findOp Gen.sbc "READ_10" with
     | some dw, some dr, some ow, some or_ =>
       (match build dw ow [("blocksize", .int 2), ("lba", .int 7), ("tl", .int 2), ("data", .bytes [1, 2, 3, 4])],
              build dr or_ [("blocksize", .int 2), ("lba", .int 7), ("tl", .int 2)] with
        | .ok cw, .ok cr =>
          let t0 : T := ⟨2, 100, [], 0, [], []⟩
          let t1 := (step t0 cw.cdb [1, 2, 3, 4] 0).1
          (step t1 cr.cdb [] 4).2.datain == [1, 2, 3, 4]
        | _, _ => false)
     | _, _, _, _ => false) = true := by decide +kernel

def wsCommands : List (String × String) := [("scsi_cdb_writesame10", "WriteSame10"), ("scsi_cdb_writesame16", "WriteSame16")]

theorem ws_ok : wsCommands.all (fun mc => (stdOf mc.1 mc.2).any (fun s =>
    shapeFieldsOK "NUMBER OF LOGICAL BLOCKS" "nb" s && (s.opcode == 0x41 || s.opcode == 0x93))) = true := by
  decide +kernel

/-- **WRITE SAME(10/16) built by the library are decoded by the conformant target as the operation, the LBA and the
    NUMBER OF LOGICAL BLOCKS the caller supplied** — every command set that offers them, all in-range arguments -/
theorem ws_cdb_conformant (mc : String × String) (hmc : mc ∈ wsCommands) (s : Cdb) (d : CmdDesc)
    (hs : stdOf mc.1 mc.2 = some s) (hd : genOf mc.1 mc.2 = some d)
    (setName : String) (set : List (String × OpCode)) (hset : (setName, set) ∈ Gen.sets)
    (op : OpCode) (hop : findOp set s.opName = some op)
    (args env : Env) (c : Command) (hb : build d op args = .ok c)
    (henv : bindArgs args d.params = .ok env) (hr : ArgsInRange s op env c.dataout)
    (lba nb : Nat) (hlba : srcVal op env c.dataout (.arg "lba") = some lba) (hnb : srcVal op env c.dataout (.arg "nb") = some nb) :
    Conformant c.cdb s.opcode lba nb ∧ (s.opcode = 0x41 ∨ s.opcode = 0x93) := by
  have hok := List.all_eq_true.mp ws_ok mc hmc
  simp only [hs, Option.any_some, Bool.and_eq_true, Bool.or_eq_true, beq_iff_eq] at hok
  exact ⟨library_cdb_conformant hs hok.1 hd hset hop hb henv hr hlba hnb, hok.2⟩

/-- **end to end, WRITE SAME**: a WRITE SAME the library builds for (lba, nb) with one block of data (NDOB clear), executed
    by the conformant target, is the abstract `writeSame` operation — `nb` blocks from `lba`, or, for `nb = 0`, every
    block from `lba` to the end of the medium -/
theorem library_write_same_reaches_disk (mc : String × String) (hmc : mc ∈ wsCommands) (s : Cdb) (d : CmdDesc)
    (hs : stdOf mc.1 mc.2 = some s) (hd : genOf mc.1 mc.2 = some d)
    (setName : String) (set : List (String × OpCode)) (hset : (setName, set) ∈ Gen.sets)
    (op : OpCode) (hop : findOp set s.opName = some op)
    (args env : Env) (c : Command) (hb : build d op args = .ok c)
    (henv : bindArgs args d.params = .ok env) (hr : ArgsInRange s op env c.dataout)
    (lba nb : Nat) (hlba : srcVal op env c.dataout (.arg "lba") = some lba) (hnb : srcVal op env c.dataout (.arg "nb") = some nb)
    (hndob : ¬ (s.opcode = 0x93 ∧ (be c.cdb 1 1) % 2 = 1))
    (t : T) (hcap : lba + nb ≤ t.capacity) (blk : Conv.Bytes) (hbl : blk.length = t.blockSize) :
    (step t c.cdb blk 0).2.status = .good ∧ (step t c.cdb blk 0).1 = targetStep t (.writeSame lba nb blk) := by
  obtain ⟨hc, hopc⟩ := ws_cdb_conformant mc hmc s d hs hd setName set hset op hop args env c hb henv hr lba nb hlba hnb
  exact write_same_updates_disk t c.cdb s.opcode lba nb hc hopc hndob hcap blk hbl

end C12
