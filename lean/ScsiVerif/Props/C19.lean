import ScsiVerif.Model.InitDevice
/-!
# C19 — the transport bindings are optional; a missing one is refused, not half-used
(the import half of the property — every module imports and works in all four presence
combinations — is decided by exhaustive execution in the harness; Python's import system is not
modelled)
-/
namespace C19
open InitDevice

theorem prefixes_exclusive (dev : List Char) (h5 : dev.take 5 = devPrefix) : ¬ dev.take 8 = iscsiPrefix := by
  intro h8
  have : (dev.take 8).take 5 = dev.take 5 := by simp [List.take_take]
  rw [h8, h5] at this
  revert this; decide

/-- **refused exactly when** neither (`/dev/` path and SG_IO binding) nor (`iscsi://` URL and iSCSI
binding): for all device strings and all four presence combinations -/
theorem refused_iff (dev : List Char) (s i rw : Bool) (ini : List Char) :
    (initDevice dev s i rw ini).1 = .refused ↔
      ¬ (dev.take 5 = devPrefix ∧ s = true) ∧ ¬ (dev.take 8 = iscsiPrefix ∧ i = true) := by
  unfold initDevice scsiCtor iscsiCtor
  by_cases h5 : dev.take 5 = devPrefix
  · have h8 := prefixes_exclusive dev h5
    cases s <;> simp [h5, h8]
  · by_cases h8 : dev.take 8 = iscsiPrefix
    · cases i <;> simp [h5, h8]
    · simp [h5, h8]

/-- **a refusal opens no file and no connection** -/
theorem refusal_has_no_effect (dev : List Char) (s i rw : Bool) (ini : List Char)
    (h : (initDevice dev s i rw ini).1 = .refused) : (initDevice dev s i rw ini).2 = [] := by
  -- neither guard holds, so both constructors refuse and every branch of `initDevice` is `(.refused, [])`
  obtain ⟨hs, hi⟩ := (refused_iff dev s i rw ini).mp h
  have h1 : scsiCtor dev s rw = (.refused, []) := if_neg fun hg => hs hg.symm
  have h2 : iscsiCtor dev i ini = (.refused, []) := if_neg fun hg => hi hg.symm
  rw [initDevice, h1, h2, ite_self, ite_self]

/-- with the SG_IO binding present a `/dev/` path yields the SG_IO device class, opened on
**exactly** the requested path, read-only or read-write as asked -/
theorem dev_path_opens_exactly (dev : List Char) (i rw : Bool) (ini : List Char) (h5 : dev.take 5 = devPrefix) :
    initDevice dev true i rw ini = (.scsiDevice dev, [.openFile dev (if rw then "w+b" else "rb")]) := by
  simp [initDevice, scsiCtor, h5]

/-- with the iSCSI binding present an `iscsi://` URL yields the iSCSI device class, connected to
exactly that URL with the given initiator name (the URL itself when the name is empty) -/
theorem iscsi_url_connects_exactly (dev : List Char) (s rw : Bool) (ini : List Char) (h8 : dev.take 8 = iscsiPrefix) :
    initDevice dev s true rw ini =
      (.iscsiDevice dev, [.connect dev (if ini.length ≠ 0 then ini else dev)]) := by
  have h5 : ¬ dev.take 5 = devPrefix := fun h5 => prefixes_exclusive dev h5 h8
  simp [initDevice, iscsiCtor, h5, h8]

/-- the constructors' own guards: a path the transport does not handle, or a missing binding -/
theorem ctor_guards (dev : List Char) (rw : Bool) (ini : List Char) :
    (scsiCtor dev false rw = (.refused, [])) ∧ (iscsiCtor dev false ini = (.refused, [])) ∧
    (dev.take 5 ≠ devPrefix → ∀ s, scsiCtor dev s rw = (.refused, [])) ∧
    (dev.take 8 ≠ iscsiPrefix → ∀ i, iscsiCtor dev i ini = (.refused, [])) := by
  refine ⟨by simp [scsiCtor], by simp [iscsiCtor], ?_, ?_⟩
  · intro h s; simp [scsiCtor, h]
  · intro h i; simp [iscsiCtor, h]

example : (initDevice "/dev/sg1".toList true false true []).2 = [.openFile "/dev/sg1".toList "w+b"] := by decide

end C19
