import ScsiVerif.Model.Enum
import ScsiVerif.Lemmas.Slots
import ScsiVerif.Lemmas.Assoc
/-!
# C18 — enumerations map names to values and back consistently under add/remove
-/
namespace C18
open EnumM

variable {V : Type}

def Distinct (e : E V) : Prop := (keys e).Nodup

theorem lookup_none_iff {e : E V} {k : String} : lookup e k = none ↔ k ∉ keys e := Assoc.find_eq_none

theorem has_iff {e : E V} {k : String} : has e k = true ↔ k ∈ keys e := by
  rw [has, Option.isSome_iff_ne_none, Ne, lookup_none_iff, Decidable.not_not]

theorem has_eq_false_iff {e : E V} {k : String} : has e k = false ↔ k ∉ keys e := by
  rw [← has_iff, Bool.not_eq_true]

/-- **an enumeration built from a mapping exposes exactly the supplied names with their values** -/
theorem exposes_supplied (items : E V) (hd : Distinct items) (k : String) (v : V) (h : (k, v) ∈ items) :
    lookup items k = some v ∧ keys items = items.map (·.1) :=
  ⟨Assoc.find_of_mem (List.pairwise_map.mp hd) h, rfl⟩

/-- a name that was not supplied is not exposed -/
theorem exposes_only_supplied (items : E V) (k : String) (hk : ∀ kv ∈ items, kv.1 ≠ k) : lookup items k = none := by
  rw [lookup_none_iff]
  intro h
  obtain ⟨kv, hkv, rfl⟩ := List.mem_map.mp h
  exact hk kv hkv rfl

theorem keys_filter (e : E V) (k : String) : keys (e.filter (·.1 != k)) = (keys e).filter (· != k) := by
  simp [keys, List.filter_map, Function.comp_def]

/-- **one step commutes with the abstraction to an ordinary dictionary**: the same names, values
and order as a dict that underwent the same operation, refused exactly when the dict would refuse
(adding an existing name, removing a missing one), and a refused operation changes nothing -/
theorem abs_step (e : E V) (op : Op V) : abs (step e op).1 = (abs e).step op := by
  cases op with
  | add k v =>
    cases hh : (lookup e k).isSome with
    | true => simp [step, add, has, abs, Spec.step, hh]
    | false =>
      simp only [step, add, has, abs, Spec.step, hh, Bool.false_eq_true, if_false]
      congr 1
      · funext x; exact Assoc.find_concat_new e k x v (has_eq_false_iff.mp hh)
      · simp [keys]
  | remove k =>
    cases hh : (lookup e k).isSome with
    | true =>
      simp only [step, remove, has, abs, Spec.step, hh, if_true]
      congr 1
      · funext x; exact Assoc.find_filter_ne e k x
      · exact keys_filter e k
    | false => simp [step, remove, has, abs, Spec.step, hh]

/-- refusals: adding an existing name or removing a missing one is a `KeyError` -/
theorem add_existing_refused (e : E V) (k : String) (v : V) (h : k ∈ keys e) : add e k v = .error .keyError := by
  simp [add, has_iff.mpr h]

theorem remove_missing_refused (e : E V) (k : String) (h : k ∉ keys e) : remove e k = .error .keyError := by
  simp [remove, has_eq_false_iff.mpr h]

theorem add_new_accepted (e : E V) (k : String) (v : V) (h : k ∉ keys e) : add e k v = .ok (e ++ [(k, v)]) := by
  simp [add, has_eq_false_iff.mpr h]

theorem run_eq_foldl (e : E V) (ops : List (Op V)) : run e ops = ops.foldl (fun e op => (step e op).1) e := by
  induction ops generalizing e with
  | nil => rfl
  | cons op rest ih => exact ih _

theorem abs_run (e : E V) (ops : List (Op V)) : abs (run e ops) = ops.foldl Spec.step (abs e) := by
  rw [run_eq_foldl]
  exact (List.foldl_hom abs (fun e op => (abs_step e op).symm)).symm

/-- **after any sequence of additions and removals** the enumeration agrees with an ordinary
dictionary that underwent the same operations: names, values and order -/
theorem run_refines (e : E V) (ops : List (Op V)) :
    (abs (run e ops)).val = (ops.foldl Spec.step (abs e)).val ∧
    (abs (run e ops)).order = (ops.foldl Spec.step (abs e)).order := by
  rw [abs_run]; exact ⟨rfl, rfl⟩

theorem step_distinct (e : E V) (op : Op V) (hd : Distinct e) : Distinct (step e op).1 := by
  unfold Distinct at *
  cases op with
  | add k v =>
    simp only [step, add]
    cases hh : has e k with
    | true => exact hd
    | false =>
      -- a new name behind distinct names: a permutation of the new name in front of them
      simp only [Bool.false_eq_true, if_false, keys, List.map_append]
      exact (List.nodup_cons.mpr ⟨has_eq_false_iff.mp hh, hd⟩).perm (List.perm_append_singleton k _).symm
  | remove k =>
    simp only [step, remove]
    cases hh : has e k with
    | true =>
      simp only [if_true]
      rw [keys_filter]
      exact hd.filter _
    | false => exact hd

/-- `enum[value]` returns a name that carries the value … -/
theorem rev_carries [BEq V] (e : E V) (v : V) (k : String) (hd : Distinct e) (h : rev e v = k) (hk : k ≠ "") :
    ∃ v', lookup e k = some v' ∧ (v' == v) = true := by
  unfold rev at h
  cases hf : e.find? (·.2 == v) with
  | none => simp [hf] at h; exact absurd h hk
  | some kv =>
    simp only [hf, Option.map_some, Option.getD_some] at h
    subst h
    have h1 := List.find?_some hf
    have h2 := List.mem_of_find?_eq_some hf
    exact ⟨kv.2, (exposes_supplied e hd kv.1 kv.2 h2).1, h1⟩

/-- … the **first** supplied one … -/
theorem rev_first [BEq V] (e : E V) (v : V) (pre post : E V) (k : String) (x : V) (he : e = pre ++ (k, x) :: post)
    (hx : (x == v) = true) (hpre : ∀ kv ∈ pre, (kv.2 == v) = false) : rev e v = k := by
  unfold rev
  rw [he, List.find?_append, List.find?_eq_none.mpr fun kv hkv => Bool.eq_false_iff.mp (hpre kv hkv)]
  simp [hx]

/-- … and the empty string when no name carries it -/
theorem rev_none [BEq V] (e : E V) (v : V) (h : ∀ kv ∈ e, (kv.2 == v) = false) : rev e v = "" := by
  unfold rev
  rw [List.find?_eq_none.mpr fun kv hkv => Bool.eq_false_iff.mp (h kv hkv)]
  rfl

/-- when values are unique, reverse lookup of a name's value returns that very name -/
theorem rev_of_lookup [BEq V] [LawfulBEq V] (e : E V) (k : String) (v : V) (h : (k, v) ∈ e)
    (huniq : ∀ kv ∈ e, kv.2 = v → kv.1 = k) : rev e v = k := by
  unfold rev
  cases hf : e.find? (·.2 == v) with
  | none =>
    rw [List.find?_eq_none] at hf
    have := hf (k, v) h
    simp at this
  | some kv =>
    have h1 := List.find?_some hf
    have h2 := List.mem_of_find?_eq_some hf
    simp only [Option.map_some, Option.getD_some]
    exact huniq kv h2 (by simpa using h1)

/-- for any interleaved history of operations on several enumerations, enumeration `j` ends up as
if only its own operations had happened -/
theorem isolation (w : List (E V)) (hist : List (Nat × Op V)) (j : Nat) (e : E V) (h : w[j]? = some e) :
    (hist.foldl (fun w io => stepAt w io.1 io.2) w)[j]? =
      some (run e ((hist.filter (·.1 = j)).map (·.2))) := by
  rw [run_eq_foldl]
  exact Slots.foldl_slot (fun e op => (step e op).1) w hist j e h

example : run ([("a", 1), ("b", 2)] : E Nat) [.add "c" 3, .remove "a", .add "a" 9, .add "b" 7]
    = [("b", 2), ("c", 3), ("a", 9)] := by decide

end C18
