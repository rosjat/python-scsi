import ScsiVerif.Std.T10
import ScsiVerif.Gen.Opcodes
/-!
# C14 — operation codes, service actions and status codes are the T10 assignments

All statements are over `Gen.*` (regenerated from `scsi_enum_command.py` on every run) and are decided
by the kernel for **every** entry; `cdb_length_is_sam` (Props/C14b) covers all 256 operation-code values.
-/
namespace C14
open Std Cmd

/-- every named entry of a command set that T10 names has T10's value (`none` = no oracle) -/
def setOpcodesOK (set : List (String × OpCode)) : Bool :=
  set.all (fun e => match lookup t10Opcodes e.1 with
    | some v => e.2.value == v
    | none => true)

/-- the same for every service-action table hanging off the set's opcode objects -/
def setServiceActionsOK (set : List (String × OpCode)) : Bool :=
  set.all (fun e => e.2.sas.all (fun sa => match lookup t10ServiceActions sa.1 with
    | some v => sa.2 == v
    | none => true))

/-- the name an `OpCode` object displays, when it is a T10 command name, also has T10's value
    (the attribute key `VOLUME_SET_OUT` must not present itself as `VOLUME_SET_IN`) -/
def setNamesOK (set : List (String × OpCode)) : Bool :=
  set.all (fun e => match lookup t10Opcodes e.2.name with
    | some v => e.2.value == v
    | none => true)

def isGeneric (k : String) : Bool :=
  ["SPC_OPCODE_A3", "SPC_OPCODE_A4", "SBC_OPCODE_7F", "SBC_OPCODE_9E", "SBC_OPCODE_A3", "SBC_OPCODE_A4", "SSC_OPCODE_A3",
   "SSC_OPCODE_A4", "SMC_OPCODE_A3", "SMC_OPCODE_A4",
   "OPEN_CLOSE_IMPORT_EXPORT_ELEMENT"   -- (smc, 1Bh) is given the whole shared table as well
  ].contains k

/-- **service actions hang off the operation code they belong to**: on every entry that names one command (not the
    generic `*_OPCODE_xx` entries, which carry the whole shared table) each listed service action is a service action
    of that entry's operation code -/
def setServiceActionHomesOK (set : List (String × OpCode)) : Bool :=
  set.all (fun e => isGeneric e.1 || e.2.sas.all (fun sa => match lookup t10ServiceActionHome sa.1 with
    | some op => op == e.2.value
    | none => true))

/-- **the same name has the same value in every command set that lists it** (no oracle needed) -/
def crossConsistent (a b : List (String × OpCode)) : Bool :=
  a.all (fun e => match (b.find? (·.1 == e.1)).map (·.2) with
    | some o => o.value == e.2.value && o.sas == e.2.sas
    | none => true)

/-- The sets list mostly the same commands, so a name looked up or compared for one fact costs nothing for the next.
Last conjunct: the oracle names every entry of `sbc`, so that for SBC no entry passes for want of an oracle. -/
theorem decided :
    Gen.sets.all (fun s => setOpcodesOK s.2 && setServiceActionsOK s.2 && setServiceActionHomesOK s.2 &&
      setNamesOK s.2) = true ∧
    Gen.sets.Pairwise (fun a b => crossConsistent a.2 b.2 = true) ∧
    Gen.sbc.all (fun e => (lookup t10Opcodes e.1).isSome) = true := by decide +kernel

theorem sets_agree_with_t10 :
    Gen.sets.all (fun s => setOpcodesOK s.2 && setServiceActionsOK s.2 && setServiceActionHomesOK s.2 &&
      setNamesOK s.2) = true := decided.1

theorem set_ok {n : String} {set : List (String × OpCode)} (h : (n, set) ∈ Gen.sets) :
    setOpcodesOK set = true ∧ setServiceActionsOK set = true ∧ setServiceActionHomesOK set = true ∧
      setNamesOK set = true := by
  simpa [and_assoc] using List.all_eq_true.mp sets_agree_with_t10 _ h

theorem spc_mem : ("spc", Gen.spc) ∈ Gen.sets := by simp [Gen.sets]
theorem sbc_mem : ("sbc", Gen.sbc) ∈ Gen.sets := by simp [Gen.sets]
theorem ssc_mem : ("ssc", Gen.ssc) ∈ Gen.sets := by simp [Gen.sets]
theorem smc_mem : ("smc", Gen.smc) ∈ Gen.sets := by simp [Gen.sets]
theorem mmc_mem : ("mmc", Gen.mmc) ∈ Gen.sets := by simp [Gen.sets]

theorem spc_opcodes : setOpcodesOK Gen.spc = true := (set_ok spc_mem).1
theorem sbc_opcodes : setOpcodesOK Gen.sbc = true := (set_ok sbc_mem).1
theorem ssc_opcodes : setOpcodesOK Gen.ssc = true := (set_ok ssc_mem).1
theorem smc_opcodes : setOpcodesOK Gen.smc = true := (set_ok smc_mem).1
theorem mmc_opcodes : setOpcodesOK Gen.mmc = true := (set_ok mmc_mem).1

theorem spc_service_actions : setServiceActionsOK Gen.spc = true := (set_ok spc_mem).2.1
theorem sbc_service_actions : setServiceActionsOK Gen.sbc = true := (set_ok sbc_mem).2.1
theorem ssc_service_actions : setServiceActionsOK Gen.ssc = true := (set_ok ssc_mem).2.1
theorem smc_service_actions : setServiceActionsOK Gen.smc = true := (set_ok smc_mem).2.1
theorem mmc_service_actions : setServiceActionsOK Gen.mmc = true := (set_ok mmc_mem).2.1

theorem spc_service_action_homes : setServiceActionHomesOK Gen.spc = true := (set_ok spc_mem).2.2.1
theorem sbc_service_action_homes : setServiceActionHomesOK Gen.sbc = true := (set_ok sbc_mem).2.2.1
theorem ssc_service_action_homes : setServiceActionHomesOK Gen.ssc = true := (set_ok ssc_mem).2.2.1
theorem smc_service_action_homes : setServiceActionHomesOK Gen.smc = true := (set_ok smc_mem).2.2.1
theorem mmc_service_action_homes : setServiceActionHomesOK Gen.mmc = true := (set_ok mmc_mem).2.2.1

theorem names_agree : Gen.sets.all (fun s => setNamesOK s.2) = true :=
  List.all_eq_true.mpr fun _ h => (set_ok h).2.2.2

theorem cross_consistent : Gen.sets.Pairwise (fun a b => crossConsistent a.2 b.2 = true) := decided.2.1

theorem oracle_names_sbc : Gen.sbc.all (fun e => (lookup t10Opcodes e.1).isSome) = true := decided.2.2

/-- the sets at positions `i < j` of `Gen.sets` (spc, sbc, ssc, smc, mmc: `C16.set_names`) -/
theorem cross_at (i j : Nat) (h : i < j := by decide) (hj : j < Gen.sets.length := by decide) :
    crossConsistent (Gen.sets[i]'(Nat.lt_trans h hj)).2 Gen.sets[j].2 = true :=
  List.pairwise_iff_getElem.mp cross_consistent i j _ hj h

theorem cross_spc_sbc : crossConsistent Gen.spc Gen.sbc = true := cross_at 0 1
theorem cross_spc_ssc : crossConsistent Gen.spc Gen.ssc = true := cross_at 0 2
theorem cross_spc_smc : crossConsistent Gen.spc Gen.smc = true := cross_at 0 3
theorem cross_spc_mmc : crossConsistent Gen.spc Gen.mmc = true := cross_at 0 4
theorem cross_sbc_ssc : crossConsistent Gen.sbc Gen.ssc = true := cross_at 1 2
theorem cross_sbc_smc : crossConsistent Gen.sbc Gen.smc = true := cross_at 1 3
theorem cross_sbc_mmc : crossConsistent Gen.sbc Gen.mmc = true := cross_at 1 4
theorem cross_ssc_smc : crossConsistent Gen.ssc Gen.smc = true := cross_at 2 3
theorem cross_ssc_mmc : crossConsistent Gen.ssc Gen.mmc = true := cross_at 2 4
theorem cross_smc_mmc : crossConsistent Gen.smc Gen.mmc = true := cross_at 3 4

/-- the status codes the library names are SAM's, and it names all of SAM's -/
theorem status_codes :
    Gen.scsiStatus.all (fun e => match lookup samStatus e.1 with
      | some v => e.2 == v
      | none => true) = true ∧
    samStatus.all (fun e => (Gen.scsiStatus.find? (·.1 == e.1)).map (·.2) == some e.2) = true := by
  decide +kernel

example : (Gen.sbc.filter (fun e => (lookup t10Opcodes e.1).isSome)).length = Gen.sbc.length := by
  rw [List.filter_eq_self.mpr (List.all_eq_true.mp oracle_names_sbc)]

end C14
