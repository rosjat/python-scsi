import ScsiVerif.Lemmas.PDict
import ScsiVerif.Lemmas.Except
import ScsiVerif.Model.Formats.Encode
/-!
# C17 (continued) — EXTENDED COPY descriptors and TransportIDs: invalid requests are refused

Theorems about the builder models (`Enc.*`, mirrors of `marshall_transport_id`, `marshall_segment`,
`marshall_target/cscd`, `marshall_parameter_list`), for **all** dictionaries: an inconsistent iSCSI TransportID, a
segment descriptor with an unknown type code or a key its format does not define, a CSCD / target descriptor with an
unknown key are refused, whatever else the dictionary holds; and one refused descriptor anywhere in the list makes the
whole parameter list a refusal — no partially built list comes back (the constructor then raises before
`SCSICommand.__init__`, observed by the harness as "no command object, nothing sent").
-/
namespace C17
open Conv PVal Enc

/-- TPID FORMAT 01b announced but no ISID supplied -/
theorem iscsi_format_without_isid_refused (d : PDict) (hp : getInt d "protocol_id" = .ok 5)
    (hf : truthy? (d.get? "tpid_format") = true) (hi : truthy? (d.get? "iscsi_initiator_session_id") = false) :
    Enc.transportId d = .error .valueError := by
  unfold Enc.transportId
  rw [hp]
  simp [bind, Except.bind, hf, hi]

/-- an ISID supplied but TPID FORMAT 00b -/
theorem iscsi_isid_without_format_refused (d : PDict) (hp : getInt d "protocol_id" = .ok 5)
    (hf : truthy? (d.get? "tpid_format") = false) (hi : truthy? (d.get? "iscsi_initiator_session_id") = true) :
    Enc.transportId d = .error .valueError := by
  unfold Enc.transportId
  rw [hp]
  simp [bind, Except.bind, hf, hi]

/-- a TransportID without PROTOCOL IDENTIFIER is refused (KeyError) -/
theorem transport_id_without_protocol_refused (d : PDict) (h : d.get? "protocol_id" = none) :
    Enc.transportId d = .error .keyError := by
  unfold Enc.transportId getInt
  rw [h]
  rfl

/-- unknown (or missing, or non-integer) descriptor type code -/
theorem segment_unknown_code_refused (t : XTables) (d : PDict)
    (h : ∀ n, d.get? "descriptor_type_code" = some (.int n) → t.segmentCodes.contains n = false) :
    Enc.xSegment t d = .error .valueError := by
  unfold Enc.xSegment Enc.codeInt
  split
  · next n hq => rw [h n hq]; rfl
  · rfl

/-- the check both descriptor builders start with: some key of `d` is not among the `valid` ones -/
theorem any_unknown_key (d : PDict) (valid : List String) (k : String) (x : PV) (hk : (k, x) ∈ d)
    (hnot : valid.contains k = false) : d.any (fun kv => !valid.contains kv.1) = true :=
  List.any_eq_true.mpr ⟨(k, x), hk, by rw [hnot]; rfl⟩

/-- a key the selected segment format does not define (for every format: the check is the same function) -/
theorem segment_unknown_key_refused (d : PDict) (lay : Layout) (n : Nat) (k : String) (x : PV)
    (hk : (k, x) ∈ d) (hne : k ≠ "descriptor_length") (hnot : (lay.map (·.1)).contains k = false) :
    Enc.xEncodeSegment d lay n = .error .valueError := by
  unfold Enc.xEncodeSegment
  exact if_pos (any_unknown_key _ _ k x (set_mem_other d k _ x _ hk hne) hnot)

theorem target_unknown_key_refused (t : XTables) (paramsKey : String) (d : PDict) (k : String) (x : PV)
    (hk : (k, x) ∈ d)
    (hnot : (t.target.map (·.1) ++ [paramsKey, "device_type_specific_parameters"]).contains k = false) :
    Enc.xTarget t paramsKey d = .error .valueError := by
  unfold Enc.xTarget
  exact if_pos (any_unknown_key d _ k x hk hnot)

/-- **no partially built parameter list**: if the first descriptor that is refused is a segment descriptor, the
    whole EXTENDED COPY parameter list is that refusal — for every header, every list of CSCD descriptors
    that are accepted, every position of the offending segment -/
theorem xcopy_refused_by_segment (t : XTables) (paramsKey : String) (hdr : PDict) (targets : List PV)
    (pre : List PV) (bad : PV) (post : List PV) (inline : Bytes) (tlKey : String) (e : PyErr) (ts : List Bytes)
    (htargets : targets.mapM (fun x => do xTarget t paramsKey (← asDict x)) = .ok ts)
    (hpre : ∀ y ∈ pre, ∃ b, (do let s ← xSegment t (← asDict y); if s.isEmpty then Except.error PyErr.valueError else pure s) = .ok b)
    (hbad : (do let s ← xSegment t (← asDict bad); if s.isEmpty then Except.error PyErr.valueError else pure s) = (.error e : Except PyErr Bytes)) :
    Enc.xParameterList t paramsKey hdr targets (pre ++ bad :: post) inline tlKey = .error e := by
  unfold Enc.xParameterList
  rw [htargets, Except.mapM_error _ pre bad post e hpre hbad]
  rfl

/-- the same for a refused CSCD / target descriptor -/
theorem xcopy_refused_by_target (t : XTables) (paramsKey : String) (hdr : PDict)
    (pre : List PV) (bad : PV) (post : List PV) (segments : List PV) (inline : Bytes) (tlKey : String) (e : PyErr)
    (hpre : ∀ y ∈ pre, ∃ b, (do xTarget t paramsKey (← asDict y)) = .ok b)
    (hbad : (do xTarget t paramsKey (← asDict bad)) = (.error e : Except PyErr Bytes)) :
    Enc.xParameterList t paramsKey hdr (pre ++ bad :: post) segments inline tlKey = .error e := by
  unfold Enc.xParameterList
  rw [Except.mapM_error _ pre bad post e hpre hbad]
  rfl

/-- PERSISTENT RESERVE OUT, REGISTER AND MOVE: a refused TransportID refuses the whole list -/
theorem prout_ram_refused (d tidDict : PDict) (e : PyErr) (hT : truthy? (d.get? "transport_id") = true)
    (hg : getDict d "transport_id" = .ok tidDict) (hbad : Enc.transportId tidDict = .error e) :
    Enc.prOut 2 d = .error e := by
  unfold Enc.prOut
  simp only [if_true, hT, hg, hbad, bind, Except.bind]

/-- non-vacuity: the refusals above apply to concrete requests -/
example : Enc.transportId [("protocol_id", .int 5), ("tpid_format", .int 1), ("iscsi_name", .str "iqn.x")] = .error .valueError :=
  iscsi_format_without_isid_refused _ rfl rfl rfl

example : Enc.xSegment Enc.x4 [("descriptor_type_code", .int 0x55)] = .error .valueError :=
  segment_unknown_code_refused _ _ (by
    intro n hn
    rw [get?_cons_self] at hn
    cases hn
    decide +kernel)

end C17
