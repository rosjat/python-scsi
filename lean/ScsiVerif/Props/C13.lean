import ScsiVerif.Model.Facade
import ScsiVerif.Std.Facade
import ScsiVerif.Gen.Facade
import ScsiVerif.Props.C01
/-!
# C13 — each facade call sends exactly one command and decodes what the device returned

* `Facade.run` is the model of a facade method; the theorems about it hold for every way the
  constructor, the device and the decoder can behave.
* The facts about the 38 real methods (their shape, the class they construct, where they take the
  operation code from, that they forward every argument under its own name) are read from
  `pyscsi/pyscsi/scsi.py` by the translator on every run (`Gen.facade`) and decided by the kernel.
* "every documented argument reaches the CDB" = `forwarding_is_by_name` + C01 (`cdb_meets_standard`).
-/
namespace C13
open Facade Conv

/-- a call that returns has sent exactly one command, and decoded (if it decodes) after sending -/
theorem returned_sends_once (w : Bool) (c d u : Except PyErr Unit) (h : (run w c d u).outcome = .returned) :
    executes (run w c d u) = 1 ∧
    (run w c d u).trace = (if w then [.construct, .execute, .unmarshall, .ret] else [.construct, .execute, .ret]) := by
  revert h
  fun_cases run w c d u <;> simp [executes, *]

/-- never more than one command per call, whatever happens -/
theorem at_most_one_execute (w : Bool) (c d u : Except PyErr Unit) : executes (run w c d u) ≤ 1 := by
  fun_cases run w c d u <;> simp [executes]

/-- the decoder never runs before the command was sent -/
theorem unmarshall_only_after_execute (w : Bool) (c d u : Except PyErr Unit) :
    ∀ pre post, (run w c d u).trace = pre ++ [.unmarshall] ++ post → Ev.execute ∈ pre := by
  intro pre post
  -- where the trace has `.unmarshall` it is the third event, after `.construct` and `.execute`: `pre` has these two
  fun_cases run w c d u <;> rcases pre with _ | ⟨a, _ | ⟨b, _ | ⟨c', pre⟩⟩⟩ <;> simp_all

/-- a device error is passed on unchanged, after exactly one send, and nothing is decoded -/
theorem device_error_passed_on (w : Bool) (u : Except PyErr Unit) (e : PyErr) :
    run w (.ok ()) (.error e) u = ⟨[.construct, .execute], .raised e⟩ := by
  simp [run]

/-- a refused construction sends nothing -/
theorem construct_error_sends_nothing (w : Bool) (d u : Except PyErr Unit) (e : PyErr) :
    run w (.error e) d u = ⟨[], .raised e⟩ := by
  simp [run]

/-- with a working constructor, device and decoder the call returns -/
theorem all_good_returns (w : Bool) : (run w (.ok ()) (.ok ()) (.ok ())).outcome = .returned := by
  cases w <;> simp [run]

/-- every method has one of the two legal shapes, and decodes iff the oracle says its command has
    a response format -/
def shapeOK (m : Gen.FacadeMethod) : Bool :=
  match shape m.events with
  | some w => w == Std.decodes.contains m.name
  | none => false

/-- the method constructs the documented class(es); the two `ExtendedCopy` classes are told apart by their module -/
def classesOK (m : Gen.FacadeMethod) : Bool :=
  match (Std.facadeMap.find? (·.1 == m.name)).map (·.2) with
  | some cs => m.calls.map (·.cls) == cs.map (fun c =>
      if c.1 == "scsi_cdb_extended_copy_spc4" then "ExtendedCopy4"
      else if c.1 == "scsi_cdb_extended_copy_spc5" then "ExtendedCopy5" else c.2)
  | none => false

/-- **arguments are forwarded under their own names**: every constructor parameter bound at the
call site receives the facade parameter of the same name (`opcode` the looked-up opcode,
`blocksize` the facade's block size, `**kwargs` the caller's keyword arguments), every positional
facade parameter is forwarded, and keyword arguments are accepted only if the constructor takes them -/
def forwardOK (m : Gen.FacadeMethod) : Bool :=
  m.calls.all (fun c =>
    c.bound.all (fun b =>
      (b.1 == b.2) || (b.1 == "blocksize" && b.2 == "self.blocksize") || (b.1 == "**" && b.2 == "kwargs") ||
      (b.1 == "*" && false)) &&
    m.params.all (fun p => p == "service_action" && m.name == "persistentreservein" ||
      c.bound.any (fun b => b.2 == p)) &&
    (!m.kwargs || c.bound.any (fun b => b.1 == "**")))

/-- **the operation code comes from the attached device's command set under the command's own
name** (or the `9E`/`A3` suffix rule for the service-action carriers), and in every command set
that offers it that object carries the T10 operation code of the class constructed -/
def opcodeOK (m : Gen.FacadeMethod) : Bool :=
  match (Std.facadeMap.find? (·.1 == m.name)).map (·.2) with
  | none => false
  | some cs => cs.all (fun mc =>
      match Std.cdbs.find? (fun s => s.module == mc.1 && s.cls == mc.2) with
      | none => false
      | some s =>
        (m.opcode == (if s.opName.length == 2 then .suffix s.opName else .name s.opName)) &&
        Gen.sets.all (fun st => match Compat.findOp st.2 s.opName with
          | none => true
          | some op => op.value == s.opcode))

/-- `opcodeOK` without its last conjunct, which `C01.setsOK` contains: where the method takes the operation code from -/
def opcodeSrcOK (m : Gen.FacadeMethod) : Bool :=
  match (Std.facadeMap.find? (·.1 == m.name)).map (·.2) with
  | none => false
  | some cs => cs.all (fun mc =>
      match C01.stdOf mc.1 mc.2 with
      | none => false
      | some s => m.opcode == (if s.opName.length == 2 then .suffix s.opName else .name s.opName))

/-- These facts look the same methods up in the same lists. -/
theorem decided :
    Gen.facade.all shapeOK = true ∧
    (Gen.facade.all classesOK = true ∧ Gen.facade.map (·.name) = Std.facadeMap.map (·.1)) ∧
    Gen.facade.all forwardOK = true ∧ Gen.facade.all opcodeSrcOK = true ∧
    Gen.facade.all (fun m => m.enRawSense == (m.name == "atapassthrough12" || m.name == "atapassthrough16")) = true := by
  unfold opcodeSrcOK
  -- `String.length` decodes UTF-8, which is dear for the kernel: the length is computed on the bytes
  simp only [Ascii.length_eq]
  decide +kernel

theorem every_method_has_the_shape : Gen.facade.all shapeOK = true := decided.1

theorem documented_methods_and_classes :
    Gen.facade.all classesOK = true ∧ Gen.facade.map (·.name) = Std.facadeMap.map (·.1) := decided.2.1

theorem forwarding_is_by_name : Gen.facade.all forwardOK = true := decided.2.2.1

theorem opcode_source : Gen.facade.all opcodeSrcOK = true := decided.2.2.2.1

/-- That in every command set the object found carries the T10 operation code is a conjunct of `Compat.setOK`, which
C01 has evaluated for the same look-up in `Std.cdbs` (`C01.value_of_stdOf`); only the source of the operation code is
decided here. -/
theorem opcode_from_device_set : Gen.facade.all opcodeOK = true := by
  refine List.all_eq_true.mpr fun m hm => ?_
  have h := List.all_eq_true.mp opcode_source m hm
  unfold opcodeSrcOK at h
  unfold opcodeOK
  split at h
  · cases h
  · rename_i cs _
    refine List.all_eq_true.mpr fun mc hmc => ?_
    have h1 := List.all_eq_true.mp h mc hmc
    split at h1
    · cases h1
    · rename_i s hs
      -- `C01.stdOf` is the look-up in `Std.cdbs` that `opcodeOK` writes out
      change (match C01.stdOf mc.1 mc.2 with | none => false | some s => _) = true
      rw [hs]
      simp only [h1, Bool.true_and]
      refine List.all_eq_true.mpr fun st hst => ?_
      split
      · rfl
      · exact beq_iff_eq.mpr (C01.value_of_stdOf hs st hst _ ‹_›)

/-- only the two ATA PASS-THROUGH methods ask for raw sense -/
theorem raw_sense_only_for_ata :
    Gen.facade.all (fun m => m.enRawSense == (m.name == "atapassthrough12" || m.name == "atapassthrough16")) = true :=
  decided.2.2.2.2

example : shape ["construct", "construct", "execute", "unmarshall", "return"] = some true := by decide

end C13
