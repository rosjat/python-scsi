import ScsiVerif.Props.C06b
import ScsiVerif.Props.C04vpd
/-!
# C06 (continued) — designators of the Device Identification page, parse → rebuild

For every designator format other than NAA: what `Inquiry.unmarshall_designator` reports for a conformant designator
(`C04.desReported`, proved in C04vpd to be the decoder's output) is rebuilt by `Inquiry.marshall_designator` into exactly
the designator's bytes.  (NAA designators are rebuilt through two tables and a truncation; they are covered by the
correspondence only — hence `_partial`.)
-/
namespace C06
open Conv PVal Std DataCompat DecL C04

def notNaa : Des → Prop
  | .naa _ _ => False
  | _ => True

/-- the three designators that are one table-encoded block -/
theorem table_rebuild (b : Block) (lay : Layout) (h : C05.pairOK (b, lay) = true ∧ covers lay b = true) (v : Vals)
    (hr : InRangeD b.rel v) :
    (encodeFrom (reported lay v) lay (zeros b.len) >>= fun r => pure (some r)) = (.ok (some (b.enc v)) : Except PyErr _) := by
  rw [encodeFrom_reported b lay h v hr]; rfl

/-- **parse → rebuild of a designator** (all formats but NAA) -/
theorem designator_rebuild_partial (d : Des) (h : DesOK d) (hn : notNaa d) :
    Enc.designator d.ty (desReported d) = .ok (some d.bytes) := by
  cases d with
  | naa code v => exact False.elim hn
  | vendor b => rfl
  | t10 vid rest => rfl
  | md5 b => rfl
  | name b => rfl
  | eui8 cid ext => simp only [Des.bytes, toBytes_eq_intToBa]; rfl
  | eui12 cid ext dir => simp only [Des.bytes, toBytes_eq_intToBa]; rfl
  | eui16 idext cid ext => simp only [Des.bytes, toBytes_eq_intToBa]; rfl
  | port v => exact table_rebuild relativePortDesignator Gen.Inquiry_relative_port_bits (fullyCovered_at 6) v h
  | tpg v => exact table_rebuild targetPortGroupDesignator Gen.Inquiry_target_portal_group_bits (fullyCovered_at 7) v h
  | lug v => exact table_rebuild logicalUnitGroupDesignator Gen.Inquiry_logical_unit_group_bits (fullyCovered_at 8) v h

/-- parse then rebuild: the bytes come back (composition with `C04.designator_std`) -/
theorem designator_roundtrip_partial (d : Des) (h : DesOK d) (hn : notNaa d) :
    (Dec.designator d.ty d.bytes >>= fun r => Enc.designator d.ty r) = .ok (some d.bytes) := by
  rw [designator_std d h]
  exact designator_rebuild_partial d h hn

/-- the hypotheses are satisfiable: an EUI-64 designator in its 12-byte format -/
example : DesOK (.eui12 0x0014EE [1, 2, 3, 4, 5] [9, 9, 9, 9]) ∧ notNaa (.eui12 0x0014EE [1, 2, 3, 4, 5] [9, 9, 9, 9]) := by
  simp [DesOK, notNaa]

end C06
