import ScsiVerif.Props.C04
/-!
# C04 (continued) — INQUIRY vital product data pages

Every page starts with the same four bytes (qualifier / type, PAGE CODE, PAGE LENGTH n−3): `inquiryVpd_frame` decodes
them once, for any block that starts with them, and leaves the page code's own branch.  Covered: the pages that are
one flat table (B0h–B3h, 86h), those whose body is a byte string (00h, 80h), and the Device Identification page (83h):
every designation descriptor inside PAGE LENGTH, in order, each with its designator decoded by type — vendor specific,
T10 vendor ID, EUI-64 (8-, 12- and 16-byte formats), NAA (IEEE Extended / Locally Assigned / IEEE Registered / IEEE
Registered Extended), relative target port, target port group, logical unit group, MD5, SCSI name string.
-/
namespace C04
open Conv PVal Std DataCompat DecL Dec

attribute [local simp] enc_length toBytes_length

/-- The keys of the two header tables, by evaluation of the regenerated tables: a change of theirs in the Python source
shows here (and in `inquiryVpd_frame`'s `getInt … = … from rfl`) as a `rfl` that no longer checks. -/
theorem inq_hdr_reported (v : Vals) :
    reported Gen.Inquiry_datain_bits v ++ reported Gen.Inquiry_pagecode_bits v =
      [("peripheral_qualifier", .int (v "peripheral_qualifier")), ("peripheral_device_type", .int (v "peripheral_device_type")),
       ("page_code", .int (v "page_code"))] := rfl

/-- **the common part of every VPD page**: the two header tables are decoded, the buffer is cut at PAGE LENGTH + 4,
    the page code selects the rest -/
theorem inquiryVpd_frame (b : Block)
    (hc : compatible (Gen.Inquiry_datain_bits ++ Gen.Inquiry_pagecode_bits) b.rel b.len = true)
    (hpl : byteField b "page_length" 2 2 = true)
    (v : Vals) (hr : InRangeD b.rel v) (body tr : Bytes) (hlen : 4 + v "page_length" = b.len + body.length) :
    Dec.inquiry (b.enc v ++ (body ++ tr)) 1 =
      Dec.inquiryVpdPage (v "page_code") (b.enc v ++ body)
        (reported Gen.Inquiry_datain_bits v ++ reported Gen.Inquiry_pagecode_bits v) := by
  have hpl := b2i_slice_key b (compatible_format hc) v hr (body ++ tr) _ 2 2 hpl
  unfold Dec.inquiry Dec.inquiryVpd
  rw [if_neg (by decide), ← bind_assoc, decodeInto_std2 _ _ b hc v hr, bind_ok, inq_hdr_reported,
    show getInt _ "page_code" = .ok (v "page_code") from rfl, bind_ok, hpl, hlen, ← List.append_assoc,
    List.take_left' (by rw [List.length_append, enc_length])]

/-- A VPD page whose body is one table `lay`.  At an instance `hc` is the row of `tables` with the three tables
concatenated, `hpage` is the page's branch of `Dec.inquiryVpdPage` (`fun _ _ => rfl`), `hpl` is decided. -/
theorem vpd_flat (b : Block) (lay : Layout) (pc : Nat)
    (hc : compatible (Gen.Inquiry_datain_bits ++ Gen.Inquiry_pagecode_bits ++ lay) b.rel b.len = true)
    (hpage : ∀ data result, Dec.inquiryVpdPage pc data result = (do pure (.dict (← decodeInto data lay result))))
    (hpl : byteField b "page_length" 2 2 = true)
    (v : Vals) (hr : InRangeD b.rel v) (hpc : v "page_code" = pc) (hlen : v "page_length" = b.len - 4) (tr : Bytes) :
    Dec.inquiry (b.enc v ++ tr) 1 =
      .ok (.dict (reported Gen.Inquiry_datain_bits v ++ reported Gen.Inquiry_pagecode_bits v ++ reported lay v)) := by
  obtain ⟨hAP, hT, hd⟩ := compatible_append hc
  have h4 := (byteField_spec hpl).2
  have := inquiryVpd_frame b hAP hpl v hr [] tr (by rw [hlen]; simp only [List.length_nil]; omega)
  rw [List.nil_append] at this
  rw [this, hpc, hpage, ← reported_append, decodeInto_std lay b hT v hr [] _ (keysDisjoint_spec hd v),
    reported_append]
  rfl

theorem vpd_block_limits_decodes (v : Vals) (hr : InRangeD vpdBlockLimits.rel v) (hpc : v "page_code" = 0xB0)
    (hlen : v "page_length" = 60) (tr : Bytes) :
    Dec.inquiry (vpdBlockLimits.enc v ++ tr) 1 =
      .ok (.dict (reported Gen.Inquiry_datain_bits v ++ reported Gen.Inquiry_pagecode_bits v ++
                  reported Gen.Inquiry_block_limits_bits v)) :=
  vpd_flat vpdBlockLimits Gen.Inquiry_block_limits_bits 0xB0 (tables_at 10) (fun _ _ => rfl) (by decide) v hr hpc hlen tr

theorem vpd_block_dev_char_decodes (v : Vals) (hr : InRangeD vpdBlockDevChar.rel v) (hpc : v "page_code" = 0xB1)
    (hlen : v "page_length" = 60) (tr : Bytes) :
    Dec.inquiry (vpdBlockDevChar.enc v ++ tr) 1 =
      .ok (.dict (reported Gen.Inquiry_datain_bits v ++ reported Gen.Inquiry_pagecode_bits v ++
                  reported Gen.Inquiry_block_dev_char_bits v)) :=
  vpd_flat vpdBlockDevChar Gen.Inquiry_block_dev_char_bits 0xB1 (tables_at 11) (fun _ _ => rfl) (by decide) v hr hpc hlen tr

theorem vpd_lbp_decodes (v : Vals) (hr : InRangeD vpdLbp.rel v) (hpc : v "page_code" = 0xB2)
    (hlen : v "page_length" = 4) (tr : Bytes) :
    Dec.inquiry (vpdLbp.enc v ++ tr) 1 =
      .ok (.dict (reported Gen.Inquiry_datain_bits v ++ reported Gen.Inquiry_pagecode_bits v ++
                  reported Gen.Inquiry_logical_block_provisioning_bits v)) :=
  vpd_flat vpdLbp Gen.Inquiry_logical_block_provisioning_bits 0xB2 (tables_at 12) (fun _ _ => rfl) (by decide) v hr hpc hlen tr

theorem vpd_referrals_decodes (v : Vals) (hr : InRangeD vpdReferrals.rel v) (hpc : v "page_code" = 0xB3)
    (hlen : v "page_length" = 12) (tr : Bytes) :
    Dec.inquiry (vpdReferrals.enc v ++ tr) 1 =
      .ok (.dict (reported Gen.Inquiry_datain_bits v ++ reported Gen.Inquiry_pagecode_bits v ++
                  reported Gen.Inquiry_referrals_bits v)) :=
  vpd_flat vpdReferrals Gen.Inquiry_referrals_bits 0xB3 (tables_at 13) (fun _ _ => rfl) (by decide) v hr hpc hlen tr

theorem vpd_extended_decodes (v : Vals) (hr : InRangeD vpdExtended.rel v) (hpc : v "page_code" = 0x86)
    (hlen : v "page_length" = 60) (tr : Bytes) :
    Dec.inquiry (vpdExtended.enc v ++ tr) 1 =
      .ok (.dict (reported Gen.Inquiry_datain_bits v ++ reported Gen.Inquiry_pagecode_bits v ++
                  reported Gen.Inquiry_extended_bits v)) :=
  vpd_flat vpdExtended Gen.Inquiry_extended_bits 0x86 (tables_at 14) (fun _ _ => rfl) (by decide) v hr hpc hlen tr

/-- A VPD page whose branch of `Dec.inquiryVpdPage` reads the bytes after the header (`hpage`, at an instance
`fun _ _ => rfl`): it is given exactly the PAGE LENGTH bytes of the body. -/
theorem vpd_bytes (pc : Nat) (f : Bytes → PDict → Except PyErr PV)
    (hpage : ∀ data result, Dec.inquiryVpdPage pc data result = f (data.drop 4) result)
    (body : Bytes) (v : Vals) (hr : InRangeD vpdHeader.rel v) (hpc : v "page_code" = pc)
    (hlen : v "page_length" = body.length) (tr : Bytes) :
    Dec.inquiry (vpdHeader.enc v ++ body ++ tr) 1 =
      f body [("peripheral_qualifier", .int (v "peripheral_qualifier")), ("peripheral_device_type", .int (v "peripheral_device_type")),
        ("page_code", .int pc)] := by
  rw [List.append_assoc, inquiryVpd_frame vpdHeader (tables_at 9) (by decide) v hr body tr (by rw [hlen]; rfl),
    inq_hdr_reported, hpc, hpage, List.drop_left' (by simp [vpdHeader])]

/-- Unit Serial Number VPD page (80h): exactly the PAGE LENGTH bytes of the serial number -/
theorem vpd_serial_decodes (sn : Bytes) (v : Vals) (hr : InRangeD vpdHeader.rel v) (hpc : v "page_code" = 0x80)
    (hlen : v "page_length" = sn.length) (tr : Bytes) :
    Dec.inquiry (vpdHeader.enc v ++ sn ++ tr) 1 =
      .ok (.dict [("peripheral_qualifier", .int (v "peripheral_qualifier")),
                  ("peripheral_device_type", .int (v "peripheral_device_type")),
                  ("page_code", .int 0x80), ("unit_serial_number", .bytes sn)]) :=
  vpd_bytes 0x80 (fun d r => .ok (.dict (r.set "unit_serial_number" (.bytes d)))) (fun _ _ => rfl) sn v hr hpc hlen tr

/-- Supported VPD Pages VPD page (00h): exactly the PAGE LENGTH page codes, in order -/
theorem vpd_supported_decodes (pages : Bytes) (v : Vals) (hr : InRangeD vpdHeader.rel v) (hpc : v "page_code" = 0)
    (hlen : v "page_length" = pages.length) (tr : Bytes) :
    Dec.inquiry (vpdHeader.enc v ++ pages ++ tr) 1 =
      .ok (.dict [("peripheral_qualifier", .int (v "peripheral_qualifier")),
                  ("peripheral_device_type", .int (v "peripheral_device_type")),
                  ("page_code", .int 0), ("vpd_pages", .list (pages.map PV.int))]) :=
  vpd_bytes 0 (fun d r => .ok (.dict (r.set "vpd_pages" (.list (d.map PV.int))))) (fun _ _ => rfl) pages v hr hpc hlen tr

def naaTable (code : Nat) : Layout :=
  if code = 2 then Gen.Inquiry_naa_ieee_extended_bits else if code = 3 then Gen.Inquiry_naa_locally_assigned_bits
  else if code = 5 then Gen.Inquiry_naa_ieee_registered_bits else Gen.Inquiry_naa_ieee_registered_extended_bits

def naaCodeOK (code : Nat) : Prop := code = 2 ∨ code = 3 ∨ code = 5 ∨ code = 6

theorem naa_c (code : Nat) :
    compatible (Gen.Inquiry_naa_type_bits ++ naaTable code) (naaBlock code).rel (naaBlock code).len = true := by
  unfold naaTable naaBlock
  split
  · exact tables_at 15
  split
  · exact tables_at 16
  split
  · exact tables_at 17
  · exact tables_at 18

def desReported : Des → PDict
  | .vendor b => [("vendor_specific", .bytes b)]
  | .t10 vid rest => [("t10_vendor_id", .bytes vid), ("vendor_specific_id", .bytes rest)]
  | .eui8 cid ext => [("ieee_company_id", .int cid), ("vendor_specific_extension_id", .bytes ext)]
  | .eui12 cid ext dir => [("ieee_company_id", .int cid), ("vendor_specific_extension_id", .bytes ext), ("directory_id", .bytes dir)]
  | .eui16 idext cid ext => [("identifier_extension", .bytes idext), ("ieee_company_id", .int cid), ("vendor_specific_extension_id", .bytes ext)]
  | .naa code v => reported Gen.Inquiry_naa_type_bits v ++ reported (naaTable code) v
  | .port v => reported Gen.Inquiry_relative_port_bits v
  | .tpg v => reported Gen.Inquiry_target_portal_group_bits v
  | .lug v => reported Gen.Inquiry_logical_unit_group_bits v
  | .md5 b => [("md5_logical_identifier", .bytes b)]
  | .name b => [("scsi_name_string", .bytes b)]

def DesOK : Des → Prop
  | .vendor _ => True
  | .t10 vid _ => vid.length = 8
  | .eui8 cid ext => cid < 2 ^ 24 ∧ ext.length = 5
  | .eui12 cid ext dir => cid < 2 ^ 24 ∧ ext.length = 5 ∧ dir.length = 4
  | .eui16 idext cid ext => idext.length = 8 ∧ cid < 2 ^ 24 ∧ ext.length = 5
  | .naa code v => naaCodeOK code ∧ InRangeD (naaBlock code).rel v ∧ v "naa" = code
  | .port v => InRangeD relativePortDesignator.rel v
  | .tpg v => InRangeD targetPortGroupDesignator.rel v
  | .lug v => InRangeD logicalUnitGroupDesignator.rel v
  | .md5 b => b.length = 16
  | .name _ => True

instance (d : Des) : Decidable (DesOK d) := by
  cases d <;> dsimp only [DesOK, naaCodeOK] <;> infer_instance

/-! `Dec.designator` by designator type: the branch the type selects.  The type constants are local simp lemmas, so
    that `simp` decides the tests `ty = DESIGNATOR_…` of the other branches. -/

section
attribute [local simp] DESIGNATOR_VENDOR DESIGNATOR_T10 DESIGNATOR_EUI64 DESIGNATOR_NAA DESIGNATOR_RELPORT DESIGNATOR_TPG
  DESIGNATOR_LUG DESIGNATOR_MD5 DESIGNATOR_NAME DESIGNATOR_PCIE

theorem designator_vendor (b : Bytes) : Dec.designator 0 b = .ok [("vendor_specific", .bytes b)] := rfl
theorem designator_t10 (b : Bytes) : Dec.designator 1 b =
    .ok [("t10_vendor_id", .bytes (b.take 8)), ("vendor_specific_id", .bytes (b.drop 8))] := rfl
theorem designator_md5 (b : Bytes) : Dec.designator 7 b = .ok [("md5_logical_identifier", .bytes (b.take 16))] := rfl
theorem designator_name (b : Bytes) : Dec.designator 8 b = .ok [("scsi_name_string", .bytes b)] := rfl

/-! EUI-64: the three formats are told apart by the designator's length. -/

theorem designator_eui8 (b : Bytes) (h : b.length = 8) : Dec.designator 2 b = .ok
    [("ieee_company_id", .int (b2i (slice b 0 3))), ("vendor_specific_extension_id", .bytes (slice b 3 8))] := by
  simp [Dec.designator, h]; rfl

theorem designator_eui12 (b : Bytes) (h : b.length = 12) : Dec.designator 2 b = .ok
    [("ieee_company_id", .int (b2i (slice b 0 3))), ("vendor_specific_extension_id", .bytes (slice b 3 8)),
     ("directory_id", .bytes (b.drop 8))] := by
  simp [Dec.designator, h]; rfl

theorem designator_eui16 (b : Bytes) (h : b.length = 16) : Dec.designator 2 b = .ok
    [("identifier_extension", .bytes (b.take 8)), ("ieee_company_id", .int (b2i (slice b 8 11))),
     ("vendor_specific_extension_id", .bytes (b.drop 11))] := by
  simp [Dec.designator, h]; rfl

theorem designator_naa (b : Bytes) : Dec.designator 3 b = Dec.naaDesignator b [] := by simp [Dec.designator]
theorem designator_port (b : Bytes) : Dec.designator 4 b = decodeInto b Gen.Inquiry_relative_port_bits [] := by
  simp [Dec.designator]
theorem designator_tpg (b : Bytes) : Dec.designator 5 b = decodeInto b Gen.Inquiry_target_portal_group_bits [] := by
  simp [Dec.designator]
theorem designator_lug (b : Bytes) : Dec.designator 6 b = decodeInto b Gen.Inquiry_logical_unit_group_bits [] := by
  simp [Dec.designator]
end

/-- the four `if naa == …` updates are one update with the table of that NAA value -/
theorem naaFields_eq (data : Bytes) (code : Nat) (hcode : naaCodeOK code) (d : PDict) :
    Dec.naaFields data code d = decodeInto data (naaTable code) d := by
  unfold Dec.naaFields naaTable
  rcases hcode with rfl | rfl | rfl | rfl <;> simp only [Nat.reduceEqDiff, reduceIte, pure_bind, bind_pure]

theorem naaDesignator_std (code : Nat) (v : Vals) (hcode : naaCodeOK code) (hr : InRangeD (naaBlock code).rel v) (hn : v "naa" = code) :
    Dec.naaDesignator ((naaBlock code).enc v) [] = .ok (reported Gen.Inquiry_naa_type_bits v ++ reported (naaTable code) v) := by
  obtain ⟨hA, hB, hD⟩ := compatible_append (naa_c code)
  unfold Dec.naaDesignator
  have hsnd := decodeInto_std _ _ hB v hr [] _ (keysDisjoint_spec hD v)
  rw [List.append_nil] at hsnd
  rw [decodeInto_block _ _ hA v hr, bind_ok, getInt_reported _ v "naa" (by decide), bind_ok, hn,
    naaFields_eq _ code hcode, hsnd]

/-- `Inquiry.unmarshall_designator` on each designator format -/
theorem designator_std (d : Des) (h : DesOK d) : Dec.designator d.ty d.bytes = .ok (desReported d) := by
  cases d with
  | vendor b => exact designator_vendor b
  | name b => exact designator_name b
  | md5 b => exact (designator_md5 b).trans (by rw [List.take_of_length_le (Nat.le_of_eq h)]; rfl)
  | t10 vid rest => exact (designator_t10 _).trans (by simp only [Des.bytes]; rw [List.take_left' h, List.drop_left' h]; rfl)
  | eui8 cid ext =>
    refine (designator_eui8 _ (by simp [Des.bytes, h.2])).trans ?_
    simp only [Des.bytes]
    rw [b2i_head cid 3 _ h.1, slice_end _ _ 3 8 (toBytes_length _ _) (by rw [h.2])]
    rfl
  | eui12 cid ext dir =>
    refine (designator_eui12 _ (by simp [Des.bytes, h.2.1, h.2.2])).trans ?_
    simp only [Des.bytes, List.append_assoc]
    rw [b2i_head cid 3 _ h.1, slice_at _ _ _ 3 8 (toBytes_length _ _) (by rw [h.2.1]), ← List.append_assoc,
      List.drop_left' (by rw [List.length_append, toBytes_length, h.2.1])]
    rfl
  | eui16 idext cid ext =>
    refine (designator_eui16 _ (by simp [Des.bytes, h.1, h.2.2])).trans ?_
    simp only [Des.bytes, List.append_assoc]
    rw [List.take_left' h.1, b2i_at _ cid 3 _ 8 11 h.1 rfl h.2.1, ← List.append_assoc,
      List.drop_left' (by rw [List.length_append, toBytes_length, h.1])]
    rfl
  | port v => exact (designator_port _).trans (decodeInto_block Gen.Inquiry_relative_port_bits relativePortDesignator (tables_at 19) v h)
  | tpg v => exact (designator_tpg _).trans (decodeInto_block Gen.Inquiry_target_portal_group_bits targetPortGroupDesignator (tables_at 20) v h)
  | lug v => exact (designator_lug _).trans (decodeInto_block Gen.Inquiry_logical_unit_group_bits logicalUnitGroupDesignator (tables_at 21) v h)
  | naa code v => exact (designator_naa _).trans (naaDesignator_std code v h.1 h.2.1 h.2.2)

theorem desig_c : compatible Gen.Inquiry_designator_bits designationDescriptor.rel 4 = true := tables_at 22

def DesigOK (d : Vals × Des) : Prop :=
  InRangeD designationDescriptor.rel d.1 ∧ d.1 "designator_type" = d.2.ty ∧ d.1 "designator_length" = d.2.bytes.length ∧ DesOK d.2

/-- PROTOCOL IDENTIFIER is reported only when PIV = 1 and the association is target port (1) or target device (2) -/
def ddFields (hv : Vals) : PDict :=
  if hv "piv" = 0 ∨ (hv "association" ≠ 1 ∧ hv "association" ≠ 2)
  then (reported Gen.Inquiry_designator_bits hv).del "protocol_identifier"
  else reported Gen.Inquiry_designator_bits hv

def designationReported (d : Vals × Des) : PV := .dict (ddFields d.1 ++ [("designator", .dict (desReported d.2))])

theorem dd_new (hv : Vals) : "designator" ∉ (ddFields hv).map (·.1) := by
  unfold ddFields
  split
  · exact fresh_del_reported _ hv _ _ (by decide)
  · rw [reported_keys]; decide

theorem dd_type (hv : Vals) : getInt (ddFields hv) "designator_type" = .ok (hv "designator_type") := by
  have h0 : getInt (reported Gen.Inquiry_designator_bits hv) "designator_type" = .ok (hv "designator_type") :=
    getInt_reported _ hv "designator_type" (by decide)
  unfold ddFields
  split
  · rw [getInt_del_ne _ _ _ (by decide)]; exact h0
  · exact h0

theorem encDesignation_length (d : Vals × Des) : (encDesignation d).length = 4 + d.2.bytes.length := by
  simp [encDesignation, Std.designationDescriptor]

theorem desig_byte3 (d : Vals × Des) (h : DesigOK d) : (encDesignation d)[3]? = some d.2.bytes.length := by
  rw [← h.2.2.1]
  exact byte_key designationDescriptor (compatible_format desig_c) d.1 h.1 _ "designator_length" 3 (by decide)

theorem designationDescriptor_std (d : Vals × Des) (h : DesigOK d) :
    Dec.designationDescriptor (encDesignation d) d.2.bytes.length = .ok (ddFields d.1 ++ [("designator", .dict (desReported d.2))]) := by
  obtain ⟨hr, hty, _, hdes⟩ := h
  unfold Dec.designationDescriptor encDesignation
  rw [decodeInto_std_nil _ _ desig_c d.1 hr, bind_ok, getInt_reported _ d.1 "piv" (by decide), bind_ok,
    getInt_reported _ d.1 "association" (by decide), bind_ok]
  dsimp only
  rw [show (if d.1 "piv" = 0 ∨ d.1 "association" ≠ 1 ∧ d.1 "association" ≠ 2 then
      (reported Gen.Inquiry_designator_bits d.1).del "protocol_identifier" else reported Gen.Inquiry_designator_bits d.1) = ddFields d.1 from rfl,
    dd_type, bind_ok, hty, slice_end _ _ 4 _ (by simp [Std.designationDescriptor]) rfl, designator_std d.2 hdes, bind_ok,
    set_new _ _ _ (dd_new d.1)]
  rfl

theorem desChunks_step (d : Vals × Des) (rest : Bytes) (h : DesigOK d) :
    Dec.desChunks (encDesignation d ++ rest) = encDesignation d :: Dec.desChunks rest := by
  have hl : (encDesignation d).length = d.2.bytes.length + 4 := by rw [encDesignation_length]; omega
  rw [Dec.desChunks, dif_neg (by rw [List.length_append]; omega), List.getElem?_append_left (by omega), desig_byte3 d h]
  dsimp only
  rw [List.take_left' hl, List.drop_left' hl]

theorem designators_one (d : Vals × Des) (h : DesigOK d) :
    (do let l ← idx (encDesignation d) 3
        let dd ← Dec.designationDescriptor (encDesignation d) l
        pure (PV.dict dd)) = (.ok (designationReported d) : Except PyErr PV) := by
  rw [idx_eq (desig_byte3 d h), bind_ok, designationDescriptor_std d h, bind_ok]
  rfl

theorem designators_std (ds : List (Vals × Des)) (h : ∀ d ∈ ds, DesigOK d) :
    Dec.designators (ds.map encDesignation).flatten = .ok (ds.map designationReported) :=
  chunked_std encDesignation DesigOK _ _ _ (by unfold Dec.desChunks; rfl) desChunks_step ds h designators_one

theorem encDesignations_length (ds : List (Vals × Des)) : (ds.map encDesignation).flatten.length = desBodyLen ds :=
  flatten_length _ (fun d => 4 + d.2.bytes.length) ds (fun d _ => encDesignation_length d)

/-- **Device Identification VPD page (83h)**: every designation descriptor inside PAGE LENGTH (n−3), in order,
    each designator decoded by its type; nothing beyond the page -/
theorem vpd_device_identification_decodes (hv : Vals) (ds : List (Vals × Des)) (hr : InRangeD vpdHeader.rel hv)
    (hpc : hv "page_code" = 0x83) (hlen : hv "page_length" = desBodyLen ds) (h : ∀ d ∈ ds, DesigOK d) (tr : Bytes) :
    Dec.inquiry (encVpd83 hv ds ++ tr) 1 =
      .ok (.dict [("peripheral_qualifier", .int (hv "peripheral_qualifier")),
                  ("peripheral_device_type", .int (hv "peripheral_device_type")),
                  ("page_code", .int 0x83), ("designator_descriptors", .list (ds.map designationReported))]) := by
  unfold encVpd83
  rw [vpd_bytes 0x83 (fun d r => do
      let ds ← Dec.designators d
      pure (.dict (r.set "designator_descriptors" (.list ds)))) (fun _ _ => rfl) _ hv hr hpc
      (by rw [hlen, encDesignations_length]) tr, designators_std ds h]
  rfl

/-- the hypotheses are satisfiable: an NAA IEEE Registered designator, a relative target port, a SCSI name string -/
example : ∃ ds : List (Vals × Des), ds.length = 3 ∧ (∀ d ∈ ds, DesigOK d) := by
  refine ⟨[(fun k => if k = "designator_type" then 3 else if k = "designator_length" then 8 else if k = "code_set" then 1 else 0,
            .naa 5 (fun k => if k = "naa" then 5 else if k = "ieee_company_id" then 0x0014EE else 0x123456789)),
           (fun k => if k = "designator_type" then 4 else if k = "designator_length" then 4 else if k = "piv" then 1 else if k = "association" then 1 else 6,
            .port (fun _ => 2)),
           (fun k => if k = "designator_type" then 8 else if k = "designator_length" then 4 else 1, .name [0x69, 0x71, 0x6E, 0])],
          rfl, by unfold DesigOK; decide +kernel⟩

end C04
