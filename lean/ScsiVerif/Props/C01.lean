import ScsiVerif.Lemmas.Compat
import ScsiVerif.Lemmas.FindOp
import ScsiVerif.Lemmas.Ascii
import ScsiVerif.Gen.Commands
import ScsiVerif.Gen.Opcodes
/-!
# C01 — every CDB the library builds has the standard's wire format

* `Cmd.build` (model of `SCSICommand.__init__` + `build_cdb`) interprets the constructor descriptions
  `Gen.commands`, which are **regenerated from the Python source on every run**.
* `Std.cdbs` is the oracle: the 42 CDB formats in the standards' notation.
* `Compat.compatible` / `Compat.setOK` are decidable; they are decided by the kernel on the regenerated data
  (`decided`), the per-command theorems are its rows.  `cdb_meets_standard` lifts them to **all** argument values.
-/
namespace C01
open Conv Cmd Std Compat

def stdOf (module cls : String) : Option Cdb := Std.cdbs.find? (fun s => s.module == module && s.cls == cls)

def genOf (module cls : String) : Option CmdDesc :=
  (Gen.commands.find? (fun c => c.1 == module && c.2.1.cls == cls)).map (·.2.1)

/-- the constructor of `module.cls`, as it is in the source now, is compatible with the standard's
    format for the CDB length SAM prescribes for the T10 operation code -/
def cmdOK (module cls : String) : Bool :=
  match stdOf module cls, genOf module cls with
  | some s, some d =>
    (match samLen s.opcode with
     | some L => compatible d s L
     | none => false)
  | _, _ => false

/-- in every command set that offers the command: T10 opcode, SAM length, T10 service actions -/
def setsOK (module cls : String) : Bool :=
  match stdOf module cls with
  | some s => Gen.sets.all (fun ns => setOK s ns.2)
  | none => false

theorem obligations_spec {module cls : String} {s : Cdb} {d : CmdDesc}
    (hs : stdOf module cls = some s) (hd : genOf module cls = some d)
    (hcmd : cmdOK module cls = true) (hsets : setsOK module cls = true)
    {setName : String} {set : List (String × OpCode)} (hset : (setName, set) ∈ Gen.sets)
    {op : OpCode} (hop : findOp set s.opName = some op) :
    ∃ L, samLen s.opcode = some L ∧ initCdbLen op.value = .ok L ∧ compatible d s L = true ∧
      op.value = s.opcode ∧ saOK s op = true := by
  simp only [cmdOK, hs, hd] at hcmd
  simp only [setsOK, hs, List.all_eq_true] at hsets
  obtain ⟨hval, hsa, L, hi, hL⟩ := setOK_spec (hsets _ hset) hop
  rw [hL] at hcmd
  exact ⟨L, hL, hi, hcmd, hval, hsa⟩

/-- **C01, unbounded in the argument values.**  For a command whose two finite obligations hold,
on every command set that offers it and for *all* argument tuples in range: the constructor's CDB
has the SAM length of its operation code, the operation code is the T10 one, a conformant target
reads every field of the standard's format as exactly the value the caller supplied (service
actions: the T10 value), and every bit outside those fields is zero. -/
theorem cdb_meets_standard (module cls : String) (s : Cdb) (d : CmdDesc)
    (hs : stdOf module cls = some s) (hd : genOf module cls = some d)
    (hcmd : cmdOK module cls = true) (hsets : setsOK module cls = true)
    (setName : String) (set : List (String × OpCode)) (hset : (setName, set) ∈ Gen.sets)
    (op : OpCode) (hop : findOp set s.opName = some op)
    (args env : Env) (c : Command) (hb : build d op args = .ok c)
    (henv : bindArgs args d.params = .ok env) (hr : ArgsInRange s op env c.dataout) :
    ∃ L, samLen op.value = some L ∧ op.value = s.opcode ∧ c.cdb.length = L ∧
      (∀ g ∈ s.fields, ∀ v, srcVal op env c.dataout g.src = some v → fieldOf L g c.cdb = v) ∧
      (∀ g ∈ s.fields, ∀ n v, g.src = .sa n v → fieldOf L g c.cdb = v) ∧
      (∀ i, (baToInt c.cdb).testBit i = true → ∃ g ∈ s.fields, g.lsb L ≤ i ∧ i < g.lsb L + g.width) := by
  obtain ⟨L, hL, hi, hc, hval, hsa⟩ := obligations_spec hs hd hcmd hsets hset hop
  obtain ⟨h1, h2, h3⟩ := compatible_sound d s L hc op hi args c hb env henv hr
  refine ⟨L, hval ▸ hL, hval, h1, h2, ?_, h3⟩
  intro g hg n v hsrc
  apply h2 g hg v
  -- for a service-action field `saOK` is the equation `srcVal` asks for
  have := List.all_eq_true.mp hsa g hg
  rw [hsrc] at this ⊢
  exact beq_iff_eq.mp this

/-- Both facts walk `Std.cdbs` and `Gen.commands`; all rows share the names unfolded to bytes and the scans of the
command sets. -/
theorem decided :
    Std.cdbs.all (fun s => cmdOK s.module s.cls && setsOK s.module s.cls) = true ∧
    Gen.commands.all (fun c => (stdOf c.1 c.2.1.cls).isSome) = true := by
  -- `findOp` takes lengths and suffixes of names, which decode UTF-8 by well-founded recursion: stated on bytes first
  simp only [setsOK, setOK, findOp_eq, Ascii.length_eq]
  decide +kernel

theorem all_commands_ok : Std.cdbs.all (fun s => cmdOK s.module s.cls && setsOK s.module s.cls) = true := decided.1

/-- Row `i` of `Std.cdbs`.  Each per-command theorem below names its row; that the row carries the
module and class the theorem states is checked by the kernel when it compares the two statements. -/
theorem row_ok (i : Nat) (h : i < Std.cdbs.length := by decide) :
    cmdOK Std.cdbs[i].module Std.cdbs[i].cls = true ∧ setsOK Std.cdbs[i].module Std.cdbs[i].cls = true := by
  simpa using List.all_eq_true.mp all_commands_ok _ (List.getElem_mem h)

theorem ok_of_stdOf {m c : String} {s : Cdb} (h : stdOf m c = some s) : cmdOK m c = true ∧ setsOK m c = true := by
  have hp := List.find?_some h
  simp only [Bool.and_eq_true, beq_iff_eq] at hp
  have := List.all_eq_true.mp all_commands_ok s (List.mem_of_find?_eq_some h)
  rwa [hp.1, hp.2, Bool.and_eq_true] at this

theorem value_of_stdOf {m c : String} {s : Cdb} (h : stdOf m c = some s) :
    ∀ st ∈ Gen.sets, ∀ op, findOp st.2 s.opName = some op → op.value = s.opcode := by
  intro st hst op hop
  have hsets := (ok_of_stdOf h).2
  simp only [setsOK, h, List.all_eq_true] at hsets
  exact (setOK_spec (hsets st hst) hop).1

theorem TestUnitReady_cdb : cmdOK "scsi_cdb_testunitready" "TestUnitReady" = true := (row_ok 0).1
theorem TestUnitReady_sets : setsOK "scsi_cdb_testunitready" "TestUnitReady" = true := (row_ok 0).2
theorem Inquiry_cdb : cmdOK "scsi_cdb_inquiry" "Inquiry" = true := (row_ok 1).1
theorem Inquiry_sets : setsOK "scsi_cdb_inquiry" "Inquiry" = true := (row_ok 1).2
theorem ModeSense6_cdb : cmdOK "scsi_cdb_modesense6" "ModeSense6" = true := (row_ok 2).1
theorem ModeSense6_sets : setsOK "scsi_cdb_modesense6" "ModeSense6" = true := (row_ok 2).2
theorem ModeSense10_cdb : cmdOK "scsi_cdb_modesense10" "ModeSense10" = true := (row_ok 3).1
theorem ModeSense10_sets : setsOK "scsi_cdb_modesense10" "ModeSense10" = true := (row_ok 3).2
theorem ModeSelect6_cdb : cmdOK "scsi_cdb_modesense6" "ModeSelect6" = true := (row_ok 4).1
theorem ModeSelect6_sets : setsOK "scsi_cdb_modesense6" "ModeSelect6" = true := (row_ok 4).2
theorem ModeSelect10_cdb : cmdOK "scsi_cdb_modesense10" "ModeSelect10" = true := (row_ok 5).1
theorem ModeSelect10_sets : setsOK "scsi_cdb_modesense10" "ModeSelect10" = true := (row_ok 5).2
theorem ReportLuns_cdb : cmdOK "scsi_cdb_report_luns" "ReportLuns" = true := (row_ok 6).1
theorem ReportLuns_sets : setsOK "scsi_cdb_report_luns" "ReportLuns" = true := (row_ok 6).2
theorem ReportPriority_cdb : cmdOK "scsi_cdb_report_priority" "ReportPriority" = true := (row_ok 7).1
theorem ReportPriority_sets : setsOK "scsi_cdb_report_priority" "ReportPriority" = true := (row_ok 7).2
theorem ReportTargetPortGroups_cdb : cmdOK "scsi_cdb_report_target_port_groups" "ReportTargetPortGroups" = true := (row_ok 8).1
theorem ReportTargetPortGroups_sets : setsOK "scsi_cdb_report_target_port_groups" "ReportTargetPortGroups" = true := (row_ok 8).2
theorem PersistentReserveIn_cdb : cmdOK "scsi_cdb_persistentreservein" "PersistentReserveIn" = true := (row_ok 9).1
theorem PersistentReserveIn_sets : setsOK "scsi_cdb_persistentreservein" "PersistentReserveIn" = true := (row_ok 9).2
theorem PersistentReserveInReadKeys_cdb : cmdOK "scsi_cdb_persistentreservein" "PersistentReserveInReadKeys" = true := (row_ok 10).1
theorem PersistentReserveInReadKeys_sets : setsOK "scsi_cdb_persistentreservein" "PersistentReserveInReadKeys" = true := (row_ok 10).2
theorem PersistentReserveInReadReservation_cdb : cmdOK "scsi_cdb_persistentreservein" "PersistentReserveInReadReservation" = true := (row_ok 11).1
theorem PersistentReserveInReadReservation_sets : setsOK "scsi_cdb_persistentreservein" "PersistentReserveInReadReservation" = true := (row_ok 11).2
theorem PersistentReserveInReportCapabilities_cdb : cmdOK "scsi_cdb_persistentreservein" "PersistentReserveInReportCapabilities" = true := (row_ok 12).1
theorem PersistentReserveInReportCapabilities_sets : setsOK "scsi_cdb_persistentreservein" "PersistentReserveInReportCapabilities" = true := (row_ok 12).2
theorem PersistentReserveInReadFullStatus_cdb : cmdOK "scsi_cdb_persistentreservein" "PersistentReserveInReadFullStatus" = true := (row_ok 13).1
theorem PersistentReserveInReadFullStatus_sets : setsOK "scsi_cdb_persistentreservein" "PersistentReserveInReadFullStatus" = true := (row_ok 13).2
theorem PersistentReserveOut_cdb : cmdOK "scsi_cdb_persistentreserveout" "PersistentReserveOut" = true := (row_ok 14).1
theorem PersistentReserveOut_sets : setsOK "scsi_cdb_persistentreserveout" "PersistentReserveOut" = true := (row_ok 14).2
theorem ExtendedCopy_cdb : cmdOK "scsi_cdb_extended_copy_spc4" "ExtendedCopy" = true := (row_ok 15).1
theorem ExtendedCopy_sets : setsOK "scsi_cdb_extended_copy_spc4" "ExtendedCopy" = true := (row_ok 15).2
theorem ExtendedCopy_spc5_cdb : cmdOK "scsi_cdb_extended_copy_spc5" "ExtendedCopy" = true := (row_ok 16).1
theorem ExtendedCopy_spc5_sets : setsOK "scsi_cdb_extended_copy_spc5" "ExtendedCopy" = true := (row_ok 16).2
theorem PreventAllowMediumRemoval_cdb : cmdOK "scsi_cdb_preventallow_mediumremoval" "PreventAllowMediumRemoval" = true := (row_ok 17).1
theorem PreventAllowMediumRemoval_sets : setsOK "scsi_cdb_preventallow_mediumremoval" "PreventAllowMediumRemoval" = true := (row_ok 17).2
theorem Read10_cdb : cmdOK "scsi_cdb_read10" "Read10" = true := (row_ok 18).1
theorem Read10_sets : setsOK "scsi_cdb_read10" "Read10" = true := (row_ok 18).2
theorem Read12_cdb : cmdOK "scsi_cdb_read12" "Read12" = true := (row_ok 19).1
theorem Read12_sets : setsOK "scsi_cdb_read12" "Read12" = true := (row_ok 19).2
theorem Read16_cdb : cmdOK "scsi_cdb_read16" "Read16" = true := (row_ok 20).1
theorem Read16_sets : setsOK "scsi_cdb_read16" "Read16" = true := (row_ok 20).2
theorem Write10_cdb : cmdOK "scsi_cdb_write10" "Write10" = true := (row_ok 21).1
theorem Write10_sets : setsOK "scsi_cdb_write10" "Write10" = true := (row_ok 21).2
theorem Write12_cdb : cmdOK "scsi_cdb_write12" "Write12" = true := (row_ok 22).1
theorem Write12_sets : setsOK "scsi_cdb_write12" "Write12" = true := (row_ok 22).2
theorem Write16_cdb : cmdOK "scsi_cdb_write16" "Write16" = true := (row_ok 23).1
theorem Write16_sets : setsOK "scsi_cdb_write16" "Write16" = true := (row_ok 23).2
theorem WriteSame10_cdb : cmdOK "scsi_cdb_writesame10" "WriteSame10" = true := (row_ok 24).1
theorem WriteSame10_sets : setsOK "scsi_cdb_writesame10" "WriteSame10" = true := (row_ok 24).2
theorem WriteSame16_cdb : cmdOK "scsi_cdb_writesame16" "WriteSame16" = true := (row_ok 25).1
theorem WriteSame16_sets : setsOK "scsi_cdb_writesame16" "WriteSame16" = true := (row_ok 25).2
theorem SynchronizeCache10_cdb : cmdOK "scsi_cdb_synchronize_cache10" "SynchronizeCache10" = true := (row_ok 26).1
theorem SynchronizeCache10_sets : setsOK "scsi_cdb_synchronize_cache10" "SynchronizeCache10" = true := (row_ok 26).2
theorem SynchronizeCache16_cdb : cmdOK "scsi_cdb_synchronize_cache16" "SynchronizeCache16" = true := (row_ok 27).1
theorem SynchronizeCache16_sets : setsOK "scsi_cdb_synchronize_cache16" "SynchronizeCache16" = true := (row_ok 27).2
theorem ReadCapacity10_cdb : cmdOK "scsi_cdb_readcapacity10" "ReadCapacity10" = true := (row_ok 28).1
theorem ReadCapacity10_sets : setsOK "scsi_cdb_readcapacity10" "ReadCapacity10" = true := (row_ok 28).2
theorem ReadCapacity16_cdb : cmdOK "scsi_cdb_readcapacity16" "ReadCapacity16" = true := (row_ok 29).1
theorem ReadCapacity16_sets : setsOK "scsi_cdb_readcapacity16" "ReadCapacity16" = true := (row_ok 29).2
theorem GetLBAStatus_cdb : cmdOK "scsi_cdb_getlbastatus" "GetLBAStatus" = true := (row_ok 30).1
theorem GetLBAStatus_sets : setsOK "scsi_cdb_getlbastatus" "GetLBAStatus" = true := (row_ok 30).2
theorem ATAPassThrough12_cdb : cmdOK "scsi_cdb_atapassthrough12" "ATAPassThrough12" = true := (row_ok 31).1
theorem ATAPassThrough12_sets : setsOK "scsi_cdb_atapassthrough12" "ATAPassThrough12" = true := (row_ok 31).2
theorem ATAPassThrough16_cdb : cmdOK "scsi_cdb_atapassthrough16" "ATAPassThrough16" = true := (row_ok 32).1
theorem ATAPassThrough16_sets : setsOK "scsi_cdb_atapassthrough16" "ATAPassThrough16" = true := (row_ok 32).2
theorem ExchangeMedium_cdb : cmdOK "scsi_cdb_exchangemedium" "ExchangeMedium" = true := (row_ok 33).1
theorem ExchangeMedium_sets : setsOK "scsi_cdb_exchangemedium" "ExchangeMedium" = true := (row_ok 33).2
theorem InitializeElementStatus_cdb : cmdOK "scsi_cdb_initelementstatus" "InitializeElementStatus" = true := (row_ok 34).1
theorem InitializeElementStatus_sets : setsOK "scsi_cdb_initelementstatus" "InitializeElementStatus" = true := (row_ok 34).2
theorem InitializeElementStatusWithRange_cdb : cmdOK "scsi_cdb_initelementstatuswithrange" "InitializeElementStatusWithRange" = true := (row_ok 35).1
theorem InitializeElementStatusWithRange_sets : setsOK "scsi_cdb_initelementstatuswithrange" "InitializeElementStatusWithRange" = true := (row_ok 35).2
theorem MoveMedium_cdb : cmdOK "scsi_cdb_movemedium" "MoveMedium" = true := (row_ok 36).1
theorem MoveMedium_sets : setsOK "scsi_cdb_movemedium" "MoveMedium" = true := (row_ok 36).2
theorem OpenCloseImportExportElement_cdb : cmdOK "scsi_cdb_openclose_exportimport_element" "OpenCloseImportExportElement" = true := (row_ok 37).1
theorem OpenCloseImportExportElement_sets : setsOK "scsi_cdb_openclose_exportimport_element" "OpenCloseImportExportElement" = true := (row_ok 37).2
theorem PositionToElement_cdb : cmdOK "scsi_cdb_positiontoelement" "PositionToElement" = true := (row_ok 38).1
theorem PositionToElement_sets : setsOK "scsi_cdb_positiontoelement" "PositionToElement" = true := (row_ok 38).2
theorem ReadElementStatus_cdb : cmdOK "scsi_cdb_readelementstatus" "ReadElementStatus" = true := (row_ok 39).1
theorem ReadElementStatus_sets : setsOK "scsi_cdb_readelementstatus" "ReadElementStatus" = true := (row_ok 39).2
theorem ReadCd_cdb : cmdOK "scsi_cdb_readcd" "ReadCd" = true := (row_ok 40).1
theorem ReadCd_sets : setsOK "scsi_cdb_readcd" "ReadCd" = true := (row_ok 40).2
theorem ReadDiscInformation_cdb : cmdOK "scsi_cdb_readdiscinformation" "ReadDiscInformation" = true := (row_ok 41).1
theorem ReadDiscInformation_sets : setsOK "scsi_cdb_readdiscinformation" "ReadDiscInformation" = true := (row_ok 41).2

/-- every command class found in the source has an entry in the oracle (nothing is silently skipped) -/
theorem every_command_has_a_standard :
    Gen.commands.all (fun c => (stdOf c.1 c.2.1.cls).isSome) = true := decided.2

example :
    (match genOf "scsi_cdb_read16" "Read16", findOp Gen.sbc "READ_16" with
     | some d, some op =>
       ((build d op [("blocksize", .int 512), ("lba", .int 0x1122334455667788), ("tl", .int 5), ("fua", .int 1)]).toOption.map
          (fun c => (c.cdb, c.datain.length))) ==
         some ([0x88, 0x08, 0x11, 0x22, 0x33, 0x44, 0x55, 0x66, 0x77, 0x88, 0, 0, 0, 5, 0, 0], 2560)
     | _, _ => false) = true := by decide +kernel

end C01
