import ScsiVerif.Props.C05
/-!
# C05 (continued) — MODE SELECT(6/10) parameter lists: every embedded length equals what follows
-/
namespace C05
open Conv PVal EncL

/-- a byte written with `r[i] = v` (one-byte length fields): where it succeeds it is `List.set` -/
theorem setByte_ok {b r : Bytes} {i v : Nat} (h : Enc.setByte b i v = .ok r) : i < b.length ∧ r = b.set i v := by
  unfold Enc.setByte at h
  split at h
  · cases h
  · split at h
    · exact ⟨‹_›, (Except.ok.inj h).symm⟩
    · cases h

/-- page_0 format: `_d[1] = len(_mpd)` -/
theorem modePageAssemble_page0 {hdr b r : Bytes} (he : Enc.modePageAssemble false hdr b = .ok r) :
    1 < hdr.length ∧ r = hdr.set 1 b.length ++ b := by
  obtain ⟨h, hs, he⟩ := Except.bind_eq_ok he
  cases he
  obtain ⟨h1, rfl⟩ := setByte_ok hs
  exact ⟨h1, rfl⟩

/-- sub_page format: `_d[2:4] = scsi_int_to_ba(len(_mpd), 2)` -/
theorem modePageAssemble_sub {hdr b r : Bytes} (he : Enc.modePageAssemble true hdr b = .ok r) :
    r = setSlice hdr 2 4 (intToBa b.length 2) ++ b := by
  obtain ⟨h, hs, he⟩ := Except.bind_eq_ok he
  cases he
  cases hs
  rfl

theorem modePage_assemble_subpage (hdr b r : Bytes) (hl : hdr.length = 4) (hfit : b.length < 2 ^ 16)
    (he : Enc.modePageAssemble true hdr b = .ok r) :
    ∃ h, r = h ++ b ∧ h.length = 4 ∧ baToInt (slice h 2 4) = b.length := by
  obtain ⟨h1, h2⟩ := length_patched hdr b.length (a := 2) (k := 2) rfl (by omega) hfit
  exact ⟨_, modePageAssemble_sub he, h1.trans hl, h2⟩

/-- **a mode page as the library builds it**: header, then body, PAGE LENGTH = length of the body.
    (`zero` / `sub` are the page_0 / sub_page header tables of MODE SENSE(6) or (10).) -/
theorem modePage_length_honest (mp : PDict) (zero sub ea ctl ctl1 dr : Layout) (r : Bytes)
    (hwf0 : zero.wf 2 = true) (hwfs : sub.wf 4 = true)
    (hr0 : InRange zero (mp.filterMap (convEntry zero))) (hrs : InRange sub (mp.filterMap (convEntry sub)))
    (he : Enc.modePage mp zero sub ea ctl ctl1 dr = .ok r) :
    ∃ h b, r = h ++ b ∧ (b.length < 2 ^ 16 →
      ((h.length = 2 ∧ h[1]? = some b.length) ∨ (h.length = 4 ∧ baToInt (slice h 2 4) = b.length))) := by
  unfold Enc.modePage at he
  obtain ⟨sv, hs, he⟩ := Except.bind_eq_ok he
  obtain ⟨hdr, hh, he⟩ := Except.bind_eq_ok he
  obtain ⟨pc, hp, he⟩ := Except.bind_eq_ok he
  obtain ⟨body, hb, he⟩ := Except.bind_eq_ok he
  cases body with
  | none => cases he
  | some b =>
    -- once `spf` is decided, `hh` is the encoding of that format's header and `he` its assembly, by unfolding
    generalize truthy? (some sv) = spf at hh he
    cases spf with
    | false =>
      obtain ⟨h1, rfl⟩ := modePageAssemble_page0 he
      exact ⟨_, b, rfl, fun _ => Or.inl ⟨(List.length_set ..).trans (encodeFrom_length hwf0 hh hr0), List.getElem?_set_self h1⟩⟩
    | true =>
      have hl := encodeFrom_length hwfs hh hrs
      refine ⟨_, b, modePageAssemble_sub he, fun hfit => Or.inr ?_⟩
      obtain ⟨h1, h2⟩ := length_patched hdr b.length (a := 2) (k := 2) rfl (by omega) hfit
      exact ⟨h1.trans hl, h2⟩

/-- **MODE SELECT(6) list**: 4-byte mode parameter header, then exactly the mode pages; byte 0 (MODE DATA LENGTH) is the
    number of bytes that follow it -/
theorem modeSelect6_list_honest (d : PDict) (pages r : Bytes)
    (hr : InRange Gen.MODESENSE6_mode_parameter_header_bits (d.filterMap (convEntry Gen.MODESENSE6_mode_parameter_header_bits)))
    (hp : Enc.modePages6 d = .ok pages) (he : Enc.modeSense6 d = .ok r) :
    r.length = 4 + pages.length ∧ r.drop 4 = pages ∧ r[0]? = some (r.length - 1) := by
  unfold Enc.modeSense6 at he
  obtain ⟨hdr, h1, he⟩ := Except.bind_eq_ok he
  rw [hp, C05.bind_ok] at he
  have hl := encodeFrom_length (L := 4) (pairs_at 21).1 h1 hr
  obtain ⟨h0, rfl⟩ := setByte_ok he
  refine ⟨by simp [hl], ?_, ?_⟩
  · rw [List.drop_set_of_lt (by omega), List.drop_left' hl]
  · rw [List.length_set]
    exact List.getElem?_set_self h0

/-- **MODE SELECT(10) list**: 8-byte header, the pages; bytes 0–1 (MODE DATA LENGTH) count the bytes that follow them -/
theorem modeSelect10_list_honest (d : PDict) (pages r : Bytes) (hfit : 6 + pages.length < 2 ^ 16)
    (hr : InRange Gen.MODESENSE10_mode_parameter_header_bits (d.filterMap (convEntry Gen.MODESENSE10_mode_parameter_header_bits)))
    (hp : Enc.modePages10 d = .ok pages) (he : Enc.modeSense10 d = .ok r) :
    r.length = 8 + pages.length ∧ r.drop 8 = pages ∧ baToInt (slice r 0 2) = r.length - 2 := by
  unfold Enc.modeSense10 at he
  obtain ⟨hdr, h1, he⟩ := Except.bind_eq_ok he
  rw [hp, C05.bind_ok] at he
  have hl := encodeFrom_length (L := 8) (pairs_at 22).1 h1 hr
  simp only [pure, Except.pure] at he
  injection he with he
  have hlen : (hdr ++ pages).length = 8 + pages.length := by rw [List.length_append, hl]
  obtain ⟨s1, s2⟩ := length_patched (hdr ++ pages) ((hdr ++ pages).length - 2) (a := 0) (k := 2) rfl (by omega) (by omega)
  subst he
  refine ⟨by rw [s1, hlen], ?_, by rw [s2, s1]⟩
  rw [drop_setSlice _ _ 0 2 8 (by decide) (by rw [hlen]; omega) (by simp) (by decide), List.drop_left' hl]

end C05
