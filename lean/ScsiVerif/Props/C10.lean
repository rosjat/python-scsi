import ScsiVerif.Lemmas.Layout
/-!
# C10 — the bit-field codec obeys its algebraic laws for every layout

The model is `ScsiVerif.Model.Conv` (a line-by-line mirror of
`pyscsi/utils/converter.py`, tied to the code by the correspondence harness).
All quantifiers are unbounded: any width `w ≥ 1`, any bit alignment `s`, any byte offset, any
buffer length, any prior contents.
-/
namespace Conv.C10


/-- the bit numbered `k` (0 = least significant) of byte `j` of a buffer -/
def bitAt (buf : Bytes) (j k : Nat) : Bool := (buf[j]?.getD 0).testBit k

/-- absolute position, counted from the least significant bit of the last byte -/
def absPos (L j k : Nat) : Nat := 8 * (L - 1 - j) + k

theorem bitAt_eq (buf : Bytes) (hb : BytesOK buf) (j k : Nat) (hj : j < buf.length) (hk : k < 8) :
    bitAt buf j k = (baToInt buf).testBit (absPos buf.length j k) := by
  rw [bitAt, absPos, List.getElem?_eq_getElem hj, Option.getD_some, getElem_eq_baToInt buf hb j hj,
    Nat.testBit_mod_two_pow, Nat.testBit_shiftRight]
  simp [hk]

/-- bytes → int after int → bytes is reduction modulo `256^n` … -/
theorem int_ba_int_mod (v n : Nat) : baToInt (intToBa v n) = v % 2^(8*n) := baToInt_intToBa v n

/-- … hence the identity for every integer below `256**size`, for every size -/
theorem int_ba_int (v n : Nat) (h : v < 2^(8*n)) : baToInt (intToBa v n) = v :=
  baToInt_intToBa_of_lt v n h

/-- int → bytes after bytes → int is the identity on every byte array -/
theorem ba_int_ba (l : Bytes) (h : BytesOK l) : intToBa (baToInt l) l.length = l :=
  intToBa_baToInt l h

/-- the conversion is big-endian: byte `j` holds bits `8(n-1-j) … 8(n-1-j)+7` of the value -/
theorem big_endian (v n j : Nat) (hj : j < n) :
    (intToBa v n)[j]? = some ((v / 2^(8*(n-1-j))) % 256) := by
  rw [intToBa_getElem? v n j hj, Nat.shiftRight_eq_div_pow, and_255]
  simp [Nat.mul_comm]

theorem length_intToBa (v n : Nat) : (intToBa v n).length = n := intToBa_length v n
theorem bytes_intToBa (v n : Nat) : BytesOK (intToBa v n) := intToBa_ok v n

/-- the bits the field `[mkMask w s, off]` occupies in a buffer of length `L` -/
def inField (L w s off i : Nat) : Prop :=
  lsbPos L (mkMask w s) off ≤ i ∧ i < lsbPos L (mkMask w s) off + w

instance (L w s off i : Nat) : Decidable (inField L w s off i) := by unfold inField; infer_instance

/-- the field lies inside the byte window `off … off+numBytes-1` the code touches -/
theorem field_inside_window (L w s off i : Nat) (hw : 0 < w) (hoff : off + numBytes (mkMask w s) ≤ L)
    (hi : inField L w s off i) :
    8 * (L - off - numBytes (mkMask w s)) ≤ i ∧ i < 8 * (L - off) := by
  unfold inField lsbPos at hi
  rw [tz_mkMask w s hw] at hi
  have := mkMask_fits w s hw
  omega

/-- **Encoding writes the value into exactly the bits of its field and no others.**
For every contiguous mask (any width ≥ 1, any alignment, hence any number of bytes), any offset
inside the buffer, any in-range value and any prior contents: the call succeeds, the length is
unchanged, every bit outside the field is unchanged and bit `i` of the field is XOR-ed with bit
`i - lsb` of the value (bit `k` of byte `j` is bit `absPos L j k` of the buffer read as one number). -/
theorem encode_exact_bytes (buf : Bytes) (w s off v : Nat) (hw : 0 < w) (hb : BytesOK buf)
    (hoff : off + numBytes (mkMask w s) ≤ buf.length) (hv : v < 2^w) :
    ∃ r, encodeMask buf (mkMask w s) off v = .ok r ∧ r.length = buf.length ∧
      ∀ j k, j < buf.length → k < 8 →
        bitAt r j k =
          if inField buf.length w s off (absPos buf.length j k)
          then (bitAt buf j k ^^ v.testBit (absPos buf.length j k - lsbPos buf.length (mkMask w s) off))
          else bitAt buf j k := by
  obtain ⟨r, h1, h2, h3, h4⟩ := encodeMask_nat buf w s off v hw hb hoff hv
  refine ⟨r, h1, h3, ?_⟩
  intro j k hj hk
  rw [bitAt_eq r h2 j k (by omega) hk, bitAt_eq buf hb j k hj hk, h3, h4, testBit_encode _ _ _ w _ hv]
  rfl

/-- outside the buffer the call is refused with `IndexError`, never a silent partial write -/
theorem encode_out_of_bounds (buf : Bytes) (m off v : Nat) (hm : m ≠ 0)
    (hoff : buf.length < off + numBytes m) : encodeMask buf m off v = .error .indexError := by
  unfold encodeMask
  simp only [hm, if_false]
  apply xorAt_error
  · exact List.ne_nil_of_length_pos (by rw [intToBa_length]; exact numBytes_pos m)
  · rwa [intToBa_length]

/-- **Decoding reads exactly the bits of the field**: two buffers that agree on the field's bits decode to the same
value, whatever else differs -/
theorem decode_depends_only_on_field (a b : Bytes) (w s off : Nat) (hw : 0 < w)
    (ha : BytesOK a) (hb : BytesOK b) (hl : a.length = b.length)
    (hoff : off + numBytes (mkMask w s) ≤ a.length)
    (hagree : ∀ i, inField a.length w s off i → (baToInt a).testBit i = (baToInt b).testBit i) :
    decodeMask a (mkMask w s) off = decodeMask b (mkMask w s) off := by
  rw [decodeMask_nat a w s off hw ha hoff, decodeMask_nat b w s off hw hb (by omega), ← hl]
  exact field_congr fun i hi => hagree _ ⟨Nat.le_add_right _ _, Nat.add_lt_add_left hi _⟩

/-- the decoded value always fits the field -/
theorem decode_lt (data : Bytes) (w s off : Nat) (hw : 0 < w) (hb : BytesOK data)
    (hoff : off + numBytes (mkMask w s) ≤ data.length) :
    decodeMask data (mkMask w s) off < 2^w := by
  rw [decodeMask_nat data w s off hw hb hoff]
  exact Nat.mod_lt _ (Nat.two_pow_pos _)

/-- **Decoding after encoding returns the value**, with arbitrary prior contents outside the
field (the field's own bits must be zero: the code XORs). -/
theorem decode_encode (buf : Bytes) (w s off v : Nat) (hw : 0 < w) (hb : BytesOK buf)
    (hoff : off + numBytes (mkMask w s) ≤ buf.length) (hv : v < 2^w)
    (hz : decodeMask buf (mkMask w s) off = 0) :
    ∃ r, encodeMask buf (mkMask w s) off v = .ok r ∧ decodeMask r (mkMask w s) off = v := by
  obtain ⟨r, h1, h2, h3, h4⟩ := encodeMask_nat buf w s off v hw hb hoff hv
  refine ⟨r, h1, ?_⟩
  rw [decodeMask_nat buf w s off hw hb hoff] at hz
  rw [decodeMask_nat r w s off hw h2 (by omega), h4, h3, field_xor _ _ _ _ hv, hz, Nat.zero_xor]

/-- encoding one field leaves the decoded value of every non-overlapping field unchanged -/
theorem encode_other_field (buf : Bytes) (w s off v w' s' off' : Nat) (hw : 0 < w) (hw' : 0 < w')
    (hb : BytesOK buf) (hoff : off + numBytes (mkMask w s) ≤ buf.length)
    (hoff' : off' + numBytes (mkMask w' s') ≤ buf.length) (hv : v < 2^w)
    (hd : lsbPos buf.length (mkMask w' s') off' + w' ≤ lsbPos buf.length (mkMask w s) off ∨
          lsbPos buf.length (mkMask w s) off + w ≤ lsbPos buf.length (mkMask w' s') off') :
    ∃ r, encodeMask buf (mkMask w s) off v = .ok r ∧
      decodeMask r (mkMask w' s') off' = decodeMask buf (mkMask w' s') off' := by
  obtain ⟨r, h1, h2, h3, h4⟩ := encodeMask_nat buf w s off v hw hb hoff hv
  refine ⟨r, h1, ?_⟩
  rw [decodeMask_nat buf w' s' off' hw' hb hoff', decodeMask_nat r w' s' off' hw' h2 (by omega), h4, h3]
  exact field_xor_other _ _ _ _ _ _ hv hd

/-- **The result does not depend on the order in which fields are supplied**: for a well-formed
layout, permuting the supplied dictionary yields the same bytes. -/
theorem order_independent (layout : Layout) (L : Nat) (hwf : layout.wf L = true) (d d' : Dict)
    (hp : d.Perm d') (hr : InRange layout d) (buf : Bytes) (hb : BytesOK buf) (hl : buf.length = L) :
    ∃ r, encodeDict d layout buf = .ok r ∧ encodeDict d' layout buf = .ok r := by
  refine ⟨_, encodeDict_eq layout L hwf d hr buf hb hl, ?_⟩
  rw [encodeDict_eq layout L hwf d' (fun kv hkv => hr kv (hp.mem_iff.mpr hkv)) buf hb hl, termsOf, termsOf,
    xorAll_perm (hp.filterMap _)]

/-- all supplied fields decode to their values after encoding them together into a zeroed buffer -/
theorem layout_decode_encode (layout : Layout) (L : Nat) (hwf : layout.wf L = true) (d : Dict)
    (hr : InRange layout d) (hk : KeysDistinct d) :
    ∃ r, encodeDict d layout (zeros L) = .ok r ∧ r.length = L ∧
      ∀ k m off n, layoutGet? layout k = some (.bits m off) → (k, Val.int n) ∈ d →
        decodeMask r m off = n := by
  obtain ⟨r, h1, _, h3, _⟩ := encodeDict_zeros layout L hwf d hr
  exact ⟨r, h1, h3, fun k m off n hg hin => decode_encodeDict layout L hwf d hr hk r h1 k m off n hg hin⟩

/-- a blob of the declared length is stored at its offset, the buffer keeps its length, all other
bytes are unchanged, and decoding returns the blob -/
theorem blob_roundtrip (buf : Bytes) (unit off len : Nat) (v : Bytes)
    (hv : v.length = len * unit) (hoff : off + len * unit ≤ buf.length) :
    ∃ r, encodeField buf (.blob unit off len) (.bytes v) = .ok r ∧ r.length = buf.length ∧
      decodeField r (.blob unit off len) = .bytes v ∧
      (∀ j, j < off ∨ off + len * unit ≤ j → r[j]? = buf[j]?) := by
  obtain ⟨hs, hlen⟩ := slice_setSlice buf v off (off + len * unit) (Nat.le_add_right _ _) hoff
    (hv.trans (Nat.add_sub_cancel_left ..).symm)
  refine ⟨_, rfl, hlen, congrArg Val.bytes hs, fun j hj => ?_⟩
  have : ¬ (off ≤ j ∧ j < off + len * unit) := by omega
  rw [setSlice_mapIdx buf off _ v hv hoff, List.getElem?_mapIdx]
  simp only [this, if_false, Option.map_id']

example : 0 < 12 ∧ BytesOK [0xAB, 0x00, 0x0F, 0xCD] ∧ 1 + numBytes (mkMask 12 4) ≤ 4 ∧ 0xABC < 2^12 ∧
    decodeMask [0xAB, 0x00, 0x0F, 0xCD] (mkMask 12 4) 1 = 0 ∧
    (encodeMask [0xAB, 0x00, 0x0F, 0xCD] (mkMask 12 4) 1 0xABC).toOption = some [0xAB, 0xAB, 0xCF, 0xCD] := by
  decide +kernel

end Conv.C10
