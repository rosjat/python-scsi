import ScsiVerif.Props.C04
/-!
# C04 (continued) — PERSISTENT RESERVE IN: READ FULL STATUS and REPORT CAPABILITIES

READ FULL STATUS: every full status descriptor inside ADDITIONAL LENGTH (n−7) with its TransportID, stride
24 + ADDITIONAL DESCRIPTOR LENGTH, in order, for every descriptor count and all values.  The TransportID is one of the
four fixed-size formats (FCP, SBP, SRP, SAS) or an iSCSI name (format 00b): for every name made of non-NUL ASCII bytes,
every amount of NUL padding (at least the terminator) and whatever follows the TransportID, `unmarshall_transport_id`
reports exactly that name.  (The format 01b form, with the ",i,0x" separator and the session identifier, is covered by
the correspondence only.)  `prReadFullStatus_decodes_any` is the theorem; `prReadFullStatus_decodes` is its case of
fixed-size TransportIDs only.

REPORT CAPABILITIES: the library reads the eight bytes twice, once with the table that has the PERSISTENT RESERVATION
TYPE MASK as one 16-bit field, once with the table of the mask's individual bits, and reports the latter under
`pr_type_mask`.  The response is described in the standard's notation both ways (`Std.prReportCapabilities`,
`Std.prReportCapabilitiesBits`); for every pair of value assignments that describe the same eight bytes, the decoder
reports the header values of the first and the type bits of the second, LENGTH itself not being reported.
-/
namespace C04
open Conv PVal Std DataCompat DecL Dec

attribute [local simp] enc_length toBytes_length fullStatusDescriptor

def tidKindOK (K : TidKind) : Bool :=
  compatible Gen.PersistentReserveInReadFullStatus_transport_id_bits K.blk.rel K.blk.len &&
  byteField K.blk K.key K.a (K.b - K.a) && decide (K.a ≤ K.b) &&
  Gen.PersistentReserveInReadFullStatus_transport_id_bits.all (fun kf => kf.1 != K.key)

theorem tidKinds_ok : tidKinds.all tidKindOK = true := by decide +kernel

def tidReported (K : TidKind) (tv : Vals) : PDict :=
  reported Gen.PersistentReserveInReadFullStatus_transport_id_bits tv ++ [(K.key, .bytes (intToBa (tv K.key) (K.b - K.a)))]

theorem tid_pid (tv : Vals) :
    getInt (reported Gen.PersistentReserveInReadFullStatus_transport_id_bits tv) "protocol_id" = .ok (tv "protocol_id") :=
  getInt_reported _ tv "protocol_id" (by decide)

/-- `unmarshall_transport_id` on the four fixed-size formats -/
theorem transportId_fixed (K : TidKind) (hK : K ∈ tidKinds) (tv : Vals) (hr : InRangeD K.blk.rel tv)
    (hp : tv "protocol_id" = K.pid) (rest : Bytes) :
    Dec.transportId (K.blk.enc tv ++ rest) = .ok (tidReported K tv) := by
  have hok : tidKindOK K = true := List.all_eq_true.mp tidKinds_ok K hK
  unfold tidKindOK at hok
  simp only [Bool.and_eq_true, decide_eq_true_eq] at hok
  obtain ⟨⟨⟨hc, hmem⟩, hab⟩, hfresh⟩ := hok
  have hsl' := slice_key K.blk (compatible_format hc) tv hr rest K.key K.a (K.b - K.a) hmem
  rw [Nat.add_sub_cancel' hab] at hsl'
  have hset := fun x => set_reported Gen.PersistentReserveInReadFullStatus_transport_id_bits tv K.key x (Assoc.not_mem_keys hfresh)
  unfold Dec.transportId
  rw [decodeInto_std_nil _ _ hc tv hr rest, bind_ok, tid_pid, bind_ok, hp]
  unfold tidReported
  simp only [tidKinds, List.mem_cons, List.not_mem_nil, or_false] at hK
  -- the four kinds are the four branches of the decoder's dispatch on PROTOCOL IDENTIFIER that read a fixed-size name
  rcases hK with rfl | rfl | rfl | rfl <;> simp only [Nat.reduceEqDiff, reduceIte] at hsl' ⊢ <;> rw [hsl', hset] <;> rfl

theorem dropWhile_head_ne (l : List Nat) (h : ∀ c ∈ l, 0 < c) : l.dropWhile (· == 0) = l := by
  cases l with
  | nil => rfl
  | cons a t => exact List.dropWhile_cons_of_neg fun ha => Nat.ne_of_gt (h a List.mem_cons_self) (beq_iff_eq.mp ha)

/-- `bytes.decode().rstrip("\0")` on a NUL-padded ASCII name -/
theorem asciiRstrip0_padded (name : List Nat) (k : Nat) (h : ∀ c ∈ name, 0 < c ∧ c < 128) :
    Dec.asciiRstrip0 (name ++ List.replicate k 0) = .ok (String.ofList (name.map Char.ofNat)) := by
  unfold Dec.asciiRstrip0
  have hany : (name ++ List.replicate k 0).any (· ≥ 128) = false := by
    rw [List.any_eq_false]
    intro x hx
    rcases List.mem_append.mp hx with hx | hx
    · have := (h x hx).2; simp; omega
    · rw [List.eq_of_mem_replicate hx]; simp
  rw [hany]
  simp only [Bool.false_eq_true, if_false]
  rw [List.reverse_append, List.reverse_replicate, List.dropWhile_append_of_pos (fun a ha => by rw [List.eq_of_mem_replicate ha]; rfl),
      dropWhile_head_ne _ (fun c hc => (h c (List.mem_reverse.mp hc)).1), List.reverse_reverse]

theorem tidi_c : compatible Gen.PersistentReserveInReadFullStatus_transport_id_bits tidIscsiHeader.rel 4 = true := tables_at 34

def iscsiVals (name : List Nat) (pad : Nat) : Vals :=
  fun k => if k = "protocol_id" then 5 else if k = "additional_length" then name.length + pad else 0

theorem transportId_iscsi_name (name : List Nat) (pad : Nat) (hn : ∀ c ∈ name, 0 < c ∧ c < 128)
    (hfit : name.length + pad < 2 ^ 16) (rest : Bytes) :
    Dec.transportId (encTidIscsiName name pad ++ rest) =
      .ok (reported Gen.PersistentReserveInReadFullStatus_transport_id_bits (iscsiVals name pad)
            ++ [("iscsi_name", .str (String.ofList (name.map Char.ofNat)))]) := by
  have hr : InRangeD tidIscsiHeader.rel (iscsiVals name pad) := by
    intro g hg
    simp only [tidIscsiHeader, Block.rel, List.map_cons, List.map_nil, List.mem_cons, List.not_mem_nil, or_false] at hg
    rcases hg with rfl | rfl | rfl
    · simp [iscsiVals, rebase]
    · simp [iscsiVals, rebase]
    · simpa [iscsiVals, rebase] using hfit
  have e : encTidIscsiName name pad ++ rest
      = tidIscsiHeader.enc (iscsiVals name pad) ++ (name ++ (List.replicate pad 0 ++ rest)) := by
    unfold encTidIscsiName iscsiVals; simp
  have hal : b2i (slice (tidIscsiHeader.enc (iscsiVals name pad) ++ (name ++ (List.replicate pad 0 ++ rest))) 2 4) = name.length + pad :=
    b2i_slice_key tidIscsiHeader (compatible_format tidi_c) (iscsiVals name pad) hr _ "additional_length" 2 2 (by decide)
  unfold Dec.transportId
  rw [e, hal, decodeInto_std_nil _ _ tidi_c (iscsiVals name pad) hr, bind_ok,
    show getInt (reported _ (iscsiVals name pad)) "protocol_id" = .ok 5 from tid_pid _, bind_ok]
  simp only [Nat.reduceEqDiff, reduceIte]
  rw [show getInt (reported _ (iscsiVals name pad)) "tpid_format" = .ok 0 from getInt_reported _ _ "tpid_format" (by decide),
    bind_ok, if_pos rfl, ← List.append_assoc name, slice_at _ _ _ 4 _ (by simp [tidIscsiHeader]) (by simp; omega),
    asciiRstrip0_padded name pad hn, bind_ok, set_reported _ _ _ _ (by decide)]
  rfl

theorem tid_len (K : TidKind) (hK : K ∈ tidKinds) (tv : Vals) : (K.blk.enc tv).length = 24 :=
  (enc_length _ tv).trans ((by decide : ∀ K ∈ tidKinds, K.blk.len = 24) K hK)

def TidOK : Tid → Prop
  | .fixed K tv => K ∈ tidKinds ∧ InRangeD K.blk.rel tv ∧ tv "protocol_id" = K.pid
  | .iscsi name pad => (∀ c ∈ name, 0 < c ∧ c < 128) ∧ name.length + pad < 2 ^ 16

deriving instance DecidableEq for Std.Block, Std.TidKind

instance (t : Tid) : Decidable (TidOK t) := by
  cases t <;> dsimp only [TidOK] <;> infer_instance

def tidAnyReported : Tid → PDict
  | .fixed K tv => tidReported K tv
  | .iscsi name pad => reported Gen.PersistentReserveInReadFullStatus_transport_id_bits (iscsiVals name pad)
      ++ [("iscsi_name", .str (String.ofList (name.map Char.ofNat)))]

theorem transportId_any (t : Tid) (h : TidOK t) (rest : Bytes) : Dec.transportId (t.bytes ++ rest) = .ok (tidAnyReported t) := by
  cases t with
  | fixed K tv => exact transportId_fixed K h.1 tv h.2.1 h.2.2 rest
  | iscsi name pad => exact transportId_iscsi_name name pad h.1 h.2 rest

theorem tid_bytes_pos (t : Tid) (h : TidOK t) : 0 < t.bytes.length := by
  cases t with
  | fixed K tv => simp only [Tid.bytes]; rw [tid_len K h.1]; decide
  | iscsi name pad =>
    simp only [Tid.bytes, encTidIscsiName, List.length_append, enc_length]
    show 0 < 4 + _ + _
    omega

/-- the hypotheses are satisfiable: "iqn.x" with three NUL bytes -/
example : (∀ c ∈ [105, 113, 110, 46, 120], 0 < c ∧ c < 128) ∧ [105, 113, 110, 46, 120].length + 3 < 2 ^ 16 := by decide

def FsdOK (d : Vals × TidKind × Vals) : Prop :=
  InRangeD fullStatusDescriptor.rel d.1 ∧ d.1 "additional_desc_length" = 24 ∧ d.2.1 ∈ tidKinds ∧
  InRangeD d.2.1.blk.rel d.2.2 ∧ d.2.2 "protocol_id" = d.2.1.pid

def fsdFields (hv : Vals) : PDict :=
  (reported Gen.PersistentReserveInReadFullStatus_full_status_desc_bits hv).del "additional_desc_length"

def fsdReported (d : Vals × TidKind × Vals) : PV :=
  .dict (fsdFields d.1 ++ [("transport_id", .dict (tidReported d.2.1 d.2.2))])

theorem fsd_new (hv : Vals) : "transport_id" ∉ (fsdFields hv).map (·.1) :=
  fresh_del_reported _ hv _ _ (by decide)

def FsdAnyOK (d : Vals × Tid) : Prop :=
  InRangeD fullStatusDescriptor.rel d.1 ∧ d.1 "additional_desc_length" = d.2.bytes.length ∧ TidOK d.2

def fsdAnyReported (d : Vals × Tid) : PV := .dict (fsdFields d.1 ++ [("transport_id", .dict (tidAnyReported d.2))])

theorem encFsdAny_length (d : Vals × Tid) : (encFullStatusDescriptorAny d).length = 24 + d.2.bytes.length := by
  unfold encFullStatusDescriptorAny
  rw [List.length_append, enc_length]; rfl

theorem fsdBody_length (ds : List (Vals × Tid)) : ((ds.map encFullStatusDescriptorAny).flatten).length = fsdBodyLen ds :=
  flatten_length _ (fun d => 24 + d.2.bytes.length) ds (fun d _ => encFsdAny_length d)

theorem fullStatusDescriptors_step (d : Vals × Tid) (rest : Bytes) (h : FsdAnyOK d) :
    Dec.fullStatusDescriptors (encFullStatusDescriptorAny d ++ rest) =
      (Dec.fullStatusDescriptors rest).map (fsdAnyReported d :: ·) := by
  have hpos := tid_bytes_pos d.2 h.2.2
  have hhdr : Dec.fullStatusHeader (fullStatusDescriptor.enc d.1 ++ (d.2.bytes ++ rest)) = .ok (fsdFields d.1, d.2.bytes.length) := by
    unfold Dec.fullStatusHeader
    rw [decodeInto_std_nil Gen.PersistentReserveInReadFullStatus_full_status_desc_bits fullStatusDescriptor (tables_at 35) d.1 h.1, bind_ok,
      getInt_reported _ d.1 "additional_desc_length" (by decide), bind_ok, h.2.1]
    rfl
  unfold encFullStatusDescriptorAny
  rw [List.append_assoc, Dec.fullStatusDescriptors, dif_neg (by simp), hhdr]
  dsimp only
  rw [if_pos hpos, List.drop_left' (by simp), transportId_any d.2 h.2.2]
  dsimp only
  rw [List.drop_left' rfl, set_new _ _ _ (fsd_new d.1)]
  cases Dec.fullStatusDescriptors rest <;> rfl

theorem fullStatusDescriptors_any (ds : List (Vals × Tid)) (h : ∀ d ∈ ds, FsdAnyOK d) :
    Dec.fullStatusDescriptors (ds.map encFullStatusDescriptorAny).flatten = .ok (ds.map fsdAnyReported) :=
  loop_std _ FsdAnyOK _ _ (by unfold Dec.fullStatusDescriptors; rfl) fullStatusDescriptors_step ds h

/-- **READ FULL STATUS, TransportIDs of any supported kind and size**: PRGENERATION and every full status descriptor
    inside ADDITIONAL LENGTH (n−7), each with its TransportID, in order; nothing beyond -/
theorem prReadFullStatus_decodes_any (gen : Nat) (ds : List (Vals × Tid)) (hg : gen < 2 ^ 32)
    (h : ∀ d ∈ ds, FsdAnyOK d) (hfit : fsdBodyLen ds < 2 ^ 32) (tr : Bytes) :
    Dec.prReadFullStatus (encReadFullStatusAny gen ds ++ tr) =
      .ok (.dict [("pr_generation", .int gen), ("full_status", .list (ds.map fsdAnyReported))]) := by
  unfold Dec.prReadFullStatus encReadFullStatusAny
  simp only [List.append_assoc]
  rw [b2i_head _ 4 _ hg, b2i_at _ _ 4 _ 4 8 (by simp) rfl hfit]
  by_cases hz : fsdBodyLen ds = 0
  · cases ds with
    | nil => rw [if_pos hz]; rfl
    | cons d _ => simp only [fsdBodyLen, List.foldr_cons] at hz; omega
  · rw [if_neg hz, ← List.append_assoc (toBytes gen 4),
      slice_at _ _ _ 8 _ (by simp) (by rw [fsdBody_length]; omega), fullStatusDescriptors_any ds h]
    rfl

/-- the hypotheses are satisfiable: an iSCSI registrant ("iqn.x", three NULs) followed by a SAS one -/
example : ∃ ds : List (Vals × Tid), ds.length = 2 ∧ (∀ d ∈ ds, FsdAnyOK d) := by
  refine ⟨[(fun k => if k = "additional_desc_length" then 12 else if k = "reservation_key" then 7 else 0,
            .iscsi [105, 113, 110, 46, 120] 3),
           (fun k => if k = "additional_desc_length" then 24 else 0,
            .fixed ⟨tidSas, 6, "sas_address", 4, 12⟩ (fun k => if k = "protocol_id" then 6 else if k = "sas_address" then 0x5000C50012345678 else 0))],
          rfl, by unfold FsdAnyOK; decide +kernel⟩

def fsdAny (d : Vals × TidKind × Vals) : Vals × Tid := (d.1, .fixed d.2.1 d.2.2)

theorem fsdAny_ok (d : Vals × TidKind × Vals) (h : FsdOK d) : FsdAnyOK (fsdAny d) :=
  ⟨h.1, h.2.1.trans (tid_len _ h.2.2.1 _).symm, h.2.2⟩

theorem fsdAny_len (ds : List (Vals × TidKind × Vals)) (h : ∀ d ∈ ds, FsdOK d) : fsdBodyLen (ds.map fsdAny) = 48 * ds.length := by
  rw [← fsdBody_length, List.map_map]
  exact items_length _ 48 ds (fun d hd => (encFsdAny_length _).trans (congrArg (24 + ·) (tid_len _ (h d hd).2.2.1 _)))

/-- **READ FULL STATUS**, every registrant with one of the fixed-size TransportIDs -/
theorem prReadFullStatus_decodes (gen : Nat) (ds : List (Vals × TidKind × Vals)) (hg : gen < 2 ^ 32)
    (h : ∀ d ∈ ds, FsdOK d) (hfit : 48 * ds.length < 2 ^ 32) (tr : Bytes) :
    Dec.prReadFullStatus (encReadFullStatus gen ds ++ tr) =
      .ok (.dict [("pr_generation", .int gen), ("full_status", .list (ds.map fsdReported))]) := by
  have e : encReadFullStatus gen ds = encReadFullStatusAny gen (ds.map fsdAny) := by
    rw [encReadFullStatus, encReadFullStatusAny, fsdAny_len ds h, List.map_map]; rfl
  rw [e, prReadFullStatus_decodes_any gen (ds.map fsdAny) hg
    (List.forall_mem_map.mpr fun d hd => fsdAny_ok d (h d hd))
    (by rw [fsdAny_len ds h]; exact hfit) tr, List.map_map]
  rfl

/-- the hypotheses are satisfiable: an FCP and a SAS registrant -/
example : ∃ ds : List (Vals × TidKind × Vals), ds.length = 2 ∧ (∀ d ∈ ds, FsdOK d) := by
  refine ⟨[(fun k => if k = "additional_desc_length" then 24 else if k = "reservation_key" then 0xABCDEF else 1,
            ⟨tidFcp, 0, "n_port_name", 8, 16⟩, fun k => if k = "n_port_name" then 0x2100001122334455 else 0),
           (fun k => if k = "additional_desc_length" then 24 else 0,
            ⟨tidSas, 6, "sas_address", 4, 12⟩, fun k => if k = "protocol_id" then 6 else if k = "sas_address" then 0x5000C50012345678 else 0)],
          rfl, by unfold FsdOK; decide +kernel⟩

theorem prcap_c : compatible Gen.PersistentReserveInReportCapabilities_bits prReportCapabilities.rel 8 = true := tables_at 36

/-- **REPORT CAPABILITIES** (LENGTH = 8) -/
theorem prReportCapabilities_decodes (v w : Vals) (hv : InRangeD prReportCapabilities.rel v) (hw : InRangeD prReportCapabilitiesBits.rel w)
    (hsame : prReportCapabilities.enc v = prReportCapabilitiesBits.enc w) (hlen : v "length" = 8) (tr : Bytes) :
    Dec.prReportCapabilities (prReportCapabilities.enc v ++ tr) =
      .ok (.dict (((reported Gen.PersistentReserveInReportCapabilities_bits v).del "length").set "pr_type_mask"
        (.dict (reported Gen.PersistentReserveInReportCapabilities_pr_type_mask_bits w)))) := by
  unfold Dec.prReportCapabilities
  rw [decodeInto_std_nil _ _ prcap_c v hv tr]
  rw [bind_ok, getInt_reported _ v "length" (by decide), hlen, bind_ok]
  unfold Dec.prReportCapabilitiesBody
  rw [if_neg (by decide), if_neg (by decide), hsame, decodeInto_std_nil Gen.PersistentReserveInReportCapabilities_pr_type_mask_bits prReportCapabilitiesBits (tables_at 37) w hw tr]
  rfl

/-- LENGTH = 0: nothing is reported -/
theorem prReportCapabilities_empty (v : Vals) (hv : InRangeD prReportCapabilities.rel v) (hlen : v "length" = 0) (tr : Bytes) :
    Dec.prReportCapabilities (prReportCapabilities.enc v ++ tr) = .ok (.dict []) := by
  unfold Dec.prReportCapabilities
  rw [decodeInto_std_nil _ _ prcap_c v hv tr]
  rw [bind_ok, getInt_reported _ v "length" (by decide), hlen, bind_ok]
  unfold Dec.prReportCapabilitiesBody
  rw [if_pos rfl]

/-- the two descriptions meet: CRH and TMV set, every reservation type supported (mask EA01h) -/
example : ∃ v w : Vals, prReportCapabilities.enc v = prReportCapabilitiesBits.enc w ∧ v "length" = 8 ∧ v "pr_type_mask" = 0xEA01 ∧ w "ex_ac_ar" = 1 :=
  ⟨fun k => if k = "length" then 8 else if k = "crh" then 1 else if k = "tmv" then 1 else if k = "pr_type_mask" then 0xEA01 else 0,
   fun k => if k = "length" then 8 else if k = "crh" then 1 else if k = "tmv" then 1
            else if k = "wr_ex_ar" ∨ k = "ex_ac_ro" ∨ k = "wr_ex_ro" ∨ k = "ex_ac" ∨ k = "wr_ex" ∨ k = "ex_ac_ar" then 1 else 0,
   by decide +kernel, rfl, rfl, rfl⟩

end C04
