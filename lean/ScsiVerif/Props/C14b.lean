import ScsiVerif.Model.Command
import ScsiVerif.Std.Cdb
/-!
# C14 (continued) — the CDB length the library derives from an operation code is SAM's

`Cmd.initCdbLen` (the model of `SCSICommand.init_cdb`) against `Std.samLen`: no regenerated table is involved.
-/
namespace C14
open Std Cmd

def lenAgrees (v : Nat) : Bool :=
  match initCdbLen v, samLen v with
  | .ok L, some L' => L == L'
  | .error .opcodeException, none => true
  | _, _ => false

theorem lenAgrees_all_bytes : (List.range 256).all lenAgrees = true := by decide +kernel

/-- **for all 256 operation-code values** the CDB length the library derives is the one SAM prescribes
for the group (6, 10, 16, 12), and codes in the variable-length, reserved and vendor-specific groups
are refused with `OpcodeException`. -/
theorem cdb_length_is_sam (v : Nat) (hv : v < 256) :
    (∀ L, samLen v = some L → initCdbLen v = .ok L) ∧
    (samLen v = none → initCdbLen v = .error .opcodeException) := by
  have h := List.all_eq_true.mp lenAgrees_all_bytes v (List.mem_range.mpr hv)
  unfold lenAgrees at h
  -- the two rows of `lenAgrees` that are `true`
  split at h
  · rename_i L L' hi hs
    rw [hi, hs, beq_iff_eq.mp h]
    exact ⟨fun _ e => congrArg Except.ok (Option.some.inj e), nofun⟩
  · rename_i hi hs
    rw [hi, hs]
    exact ⟨nofun, fun _ => rfl⟩
  · cases h

/-- a byte-sized operation code is all there is: larger values are refused too -/
theorem large_opcode_refused (v : Nat) (hv : 256 ≤ v) : initCdbLen v = .error .opcodeException := by
  unfold initCdbLen
  -- `v` lies above every range of the chain
  rw [if_neg (by omega), if_neg (by omega), if_neg (by omega), if_neg (by omega), if_neg (by omega)]

/-- with no bound on the value: a group to which SAM gives no fixed length is refused -/
theorem initCdbLen_of_samLen_none (v : Nat) (hs : samLen v = none) : initCdbLen v = .error .opcodeException :=
  if hv : v < 256 then (cdb_length_is_sam v hv).2 hs else large_opcode_refused v (Nat.le_of_not_lt hv)

end C14
