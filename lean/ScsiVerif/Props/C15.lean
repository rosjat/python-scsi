import ScsiVerif.Model.Handle
import ScsiVerif.Lemmas.Slots
/-!
# C15 — commands never go through a stale device handle; handles are released
-/
namespace C15
open Handle

/-- the device object is usable: its current handle is open on the inode it recorded; every
superseded handle has been closed exactly once and the current one never -/
structure Inv (w : World) : Prop where
  cur : ∃ h : H, w.handles[w.cur]? = some h ∧ h.isOpen = true ∧ h.ino = w.recorded ∧ h.closeCalls = 0
  others : ∀ (i : Nat) (h : H), w.handles[i]? = some h → i ≠ w.cur → h.isOpen = false ∧ h.closeCalls = 1
  fresh : ∀ (i : Nat) (h : H), w.handles[i]? = some h → h.ino < w.nextIno
  recorded_lt : w.recorded < w.nextIno
  fs_lt : ∀ ino : Nat, w.fs = some ino → ino < w.nextIno

def notClose : Ev → Prop
  | .close => False
  | _ => True

theorem inv_init (d : Bool) : Inv (init d) := by
  refine ⟨⟨⟨1, true, 0⟩, by simp [init], rfl, rfl, rfl⟩, ?_, ?_, by simp [init], ?_⟩
  · intro i h hi hne
    simp only [init] at hi hne
    cases i with
    | zero => exact absurd rfl hne
    | succ j => simp at hi
  · intro i h hi
    simp only [init] at hi ⊢
    cases i with
    | zero => simp at hi; subst hi; decide
    | succ j => simp at hi
  · intro ino h; simp [init] at h ⊢; omega

theorem closeCur_spec (w : World) (hinv : Inv w) (i : Nat) (h : H) (hi : (closeCur w).1.handles[i]? = some h) :
    h.isOpen = false ∧ h.closeCalls = 1 ∧ h.ino < w.nextIno := by
  rw [closeCur, List.getElem?_mapIdx] at hi
  obtain ⟨h0, hw, rfl⟩ := Option.map_eq_some_iff.mp hi
  by_cases hic : i = w.cur
  · obtain ⟨hc, hc1, _, _, hc4⟩ := hinv.cur
    cases (hic ▸ hw).symm.trans hc1
    simp [hic, hc4, hinv.fresh _ _ hw]
  · simp [hic, hinv.others i h0 hw hic, hinv.fresh _ _ hw]

theorem inv_reopen (w : World) (ino : Nat) (hinv : Inv w) (hfs : w.fs = some ino) : Inv (reopen w ino) := by
  have hlt := hinv.fs_lt ino hfs
  refine ⟨⟨⟨ino, true, 0⟩, by simp [reopen], rfl, rfl, rfl⟩, ?_, ?_, hlt, ?_⟩
  · intro i h hi hne
    rcases (Slots.getElem?_concat_eq_some ..).mp hi with hi | ⟨rfl, _⟩
    · exact ⟨(closeCur_spec w hinv i h hi).1, (closeCur_spec w hinv i h hi).2.1⟩
    · exact absurd rfl hne
  · intro i h hi
    rcases (Slots.getElem?_concat_eq_some ..).mp hi with hi | ⟨_, rfl⟩
    · exact (closeCur_spec w hinv i h hi).2.2
    · exact hlt
  · intro i h; cases hfs.symm.trans h; exact hlt

/-- the three ways an `execute` can go: the node has vanished; the handle is kept (detection off, or the node is the
recorded one); the node was replaced -/
theorem execute_cases (w : World) :
    (w.detect = true ∧ w.fs = none ∧ step w .execute = (w, .error "FileNotFoundError")) ∨
    ((w.detect = true → w.fs = some w.recorded) ∧ step w .execute = (w, .sent w.cur)) ∨
    ∃ ino, w.detect = true ∧ w.fs = some ino ∧ ino ≠ w.recorded ∧
      step w .execute = (reopen w ino, if w.closeFails then .error "OSError" else .sent w.handles.length) := by
  by_cases hd : w.detect = true
  · cases hfs : w.fs with
    | none => exact .inl ⟨hd, rfl, by simp [step, hd, hfs]⟩
    | some ino =>
      by_cases hre : ino = w.recorded
      · exact .inr (.inl ⟨fun _ => by rw [hre], by simp [step, hd, hfs, hre]⟩)
      · exact .inr (.inr ⟨ino, hd, rfl, hre, by simp [step, hd, hfs, hre]⟩)
  · exact .inr (.inl ⟨fun h => absurd h hd, by simp [step, hd]⟩)

theorem inv_step (w : World) (e : Ev) (hinv : Inv w) (he : notClose e) : Inv (step w e).1 := by
  cases e with
  | close => exact absurd he id
  | replug =>
    simp only [step]
    exact ⟨hinv.cur, hinv.others, fun i h hi => Nat.lt_succ_of_lt (hinv.fresh i h hi),
      Nat.lt_succ_of_lt hinv.recorded_lt, by intro ino h; simp at h ⊢; omega⟩
  | unplug =>
    simp only [step]
    exact ⟨hinv.cur, hinv.others, hinv.fresh, hinv.recorded_lt, by intro ino h; simp at h⟩
  | setCloseFail b =>
    simp only [step]
    exact ⟨hinv.cur, hinv.others, hinv.fresh, hinv.recorded_lt, hinv.fs_lt⟩
  | execute =>
    rcases execute_cases w with ⟨_, _, h⟩ | ⟨_, h⟩ | ⟨ino, _, hfs, _, h⟩ <;> rw [h]
    · exact hinv
    · exact hinv
    · exact inv_reopen w ino hinv hfs

/-- what every step other than `close` preserves holds after every history without an explicit close -/
theorem run_preserves {P : World → Prop} (hstep : ∀ w e, P w → notClose e → P (step w e).1)
    (w : World) (es : List Ev) (hw : P w) (hes : ∀ e ∈ es, notClose e) : P (run w es).1 := by
  induction es generalizing w with
  | nil => exact hw
  | cons e rest ih => exact ih (step w e).1 (hstep w e hw (hes e (by simp))) (fun x hx => hes x (by simp [hx]))

/-- the invariant holds after every history without an explicit close -/
theorem inv_run (w : World) (es : List Ev) (hinv : Inv w) (hes : ∀ e ∈ es, notClose e) : Inv (run w es).1 :=
  run_preserves inv_step w es hinv hes

/-- **With detection on, a command is only ever sent through an open handle to the node that
currently exists at the device path** — after a replug that is a fresh handle, the superseded one
having been closed; when closing the stale handle fails the fresh handle is still opened and the
error is raised *instead of* sending; a vanished node is an error, nothing is sent. -/
theorem sent_through_current_node (w : World) (hinv : Inv w) (hd : w.detect = true) (h : Nat)
    (hs : (step w .execute).2 = .sent h) :
    let w' := (step w .execute).1
    h = w'.cur ∧ ∃ (hh : H) (ino : Nat), w'.handles[h]? = some hh ∧ hh.isOpen = true ∧ w'.fs = some ino ∧ hh.ino = ino := by
  rcases execute_cases w with ⟨_, _, e⟩ | ⟨hfs, e⟩ | ⟨ino, _, hfs, _, e⟩ <;> rw [e] at hs ⊢
  · cases hs
  · obtain ⟨hc, hc1, hc2, hc3, _⟩ := hinv.cur
    cases hs
    exact ⟨rfl, hc, _, hc1, hc2, hfs hd, hc3⟩
  · -- sent only when closing the stale handle succeeded; the handle is the one `reopen` appended
    cases hcf : w.closeFails <;> rw [hcf] at hs <;> cases hs
    exact ⟨by simp [reopen, closeCur], ⟨ino, true, 0⟩, ino, by simp [reopen, closeCur], rfl, by simp [reopen, closeCur, hfs], rfl⟩

/-- a vanished node is reported, nothing is sent and the old handle is not used -/
theorem vanished_node_is_error (w : World) (hd : w.detect = true) (hfs : w.fs = none) :
    (step w .execute).2 = .error "FileNotFoundError" := by
  simp [step, hd, hfs]

/-- a failing close of the stale handle: the fresh handle is opened all the same, the error is
raised instead of sending -/
theorem close_failure_still_reopens (w : World) (hinv : Inv w) (hd : w.detect = true) (ino : Nat)
    (hfs : w.fs = some ino) (hre : ino ≠ w.recorded) (hcf : w.closeFails = true) :
    (step w .execute).2 = .error "OSError" ∧
    (step w .execute).1.recorded = ino ∧ (step w .execute).1.cur = w.handles.length := by
  simp [step, hd, hfs, hre, hcf, reopen, closeCur]

/-- with detection disabled the original handle is kept, whatever happens to the node -/
theorem detection_off_keeps_handle (w : World) (es : List Ev) (hd : w.detect = false)
    (hes : ∀ e ∈ es, notClose e) : (run w es).1.cur = w.cur ∧ (run w es).1.handles.length = w.handles.length := by
  -- preserved by every step: the handle and the number of handles are those of `w`, and detection stays off
  have := run_preserves (P := fun w' => w'.cur = w.cur ∧ w'.handles.length = w.handles.length ∧ w'.detect = false)
    (fun w' e h he => by
      cases e with
      | close => exact absurd he id
      | _ => simpa [step, h.2.2] using h)
    w es ⟨rfl, rfl, hd⟩ hes
  exact ⟨this.1, this.2.1⟩

/-- **every handle is released exactly once**: after any history followed by `close()` (or leaving
a `with` block, normally or by exception) every handle the device ever opened — the superseded
ones and the current one — is closed and its `close` was called exactly once. -/
theorem released_exactly_once (d : Bool) (es : List Ev) (hes : ∀ e ∈ es, notClose e) :
    ∀ (i : Nat) (h : H), (step (run (init d) es).1 .close).1.handles[i]? = some h → h.isOpen = false ∧ h.closeCalls = 1 := by
  intro i h hi
  have hinv := inv_run (init d) es (inv_init d) hes
  have := closeCur_spec _ hinv i h (by simpa [step] using hi)
  exact ⟨this.1, this.2.1⟩

example : (run (init true) [.execute, .replug, .execute, .unplug, .execute]).2
    = [.sent 0, .ok, .sent 1, .ok, .error "FileNotFoundError"] := by decide

end C15
