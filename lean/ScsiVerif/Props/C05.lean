import ScsiVerif.Lemmas.EncodeCompat
import ScsiVerif.Lemmas.EncodeList
import ScsiVerif.Model.Formats.Encode
import ScsiVerif.Std.DataOut
/-!
# C05 — parameter lists sent to the device have the standard layout and honest lengths

`Enc.*` (Model/Formats/Encode.lean) mirrors the builders of MODE SELECT(6/10), PERSISTENT RESERVE
OUT (basic, SPEC_I_PT and REGISTER AND MOVE lists with TransportIDs) and EXTENDED COPY (LID1/LID4).
`Std/DataOut.lean` states the formats in the standards' notation.

* `all_parameter_tables_conform` (kernel-decided on the regenerated tables): every layout table the
  builders use is a well-formed bit-field table that sits exactly on the standard's fields;
* `parameter_block_sound`: hence `encode_dict(values, table, bytearray(L))` **is** the standard's
  structure for the supplied values, for all in-range values;
* the `…_honest` theorems: every length the builders fill in (`_pad4_len`, the iSCSI TransportID's ADDITIONAL
  LENGTH, TRANSPORTID PARAMETER DATA LENGTH, the list lengths of the EXTENDED COPY headers, PAGE LENGTH and
  MODE DATA LENGTH) equals the number of bytes that follow, for all descriptor counts and string lengths.
-/
namespace C05
open Conv PVal Std DataCompat EncL

/-- (standard block, library table) for every table a builder encodes with.  Rows are used by position (`pairs_at`,
the number at the end of a line is that of its first row), so a new row goes at the end. -/
def pairs : List (Block × Layout) := [
  (prOutBasic, Gen.PersistentReserveOut_basic_parameter_list_bits),   -- 0
  (prOutBasicSpec, Gen.PersistentReserveOut_basic_parameter_list_bits),   -- 1
  (prOutRegisterAndMove, Gen.PersistentReserveOut_ram_parameter_list_bits),   -- 2
  (xcopyLid1Header, Enc.x4.header), (xcopyLid4Header, Enc.x5.header),   -- 3
  (xcopyTargetDescriptor, Enc.x4.target), (xcopyTargetDescriptor, Enc.x4.block), (xcopyTargetDescriptorSeq, Enc.x4.sequential),   -- 5
  (xcopyTargetDescriptor, Enc.x4.processor), (xcopyIdentHeader, Enc.x4.designator),   -- 8
  (xcopySegBlockStream, Enc.x4.segB2S), (xcopySegBlockStream, Enc.x4.segS2B), (xcopySegBlockBlock, Enc.x4.segB2B),   -- 10
  (xcopyTargetDescriptor, Enc.x5.target), (xcopyTargetDescriptor, Enc.x5.block), (xcopyTargetDescriptorSeq, Enc.x5.sequential),   -- 13
  (xcopyTargetDescriptor, Enc.x5.processor), (xcopyIdentHeader, Enc.x5.designator),   -- 16
  (xcopySegBlockStream5, Enc.x5.segB2S), (xcopySegBlockStream5, Enc.x5.segS2B), (xcopySegBlockBlock5, Enc.x5.segB2B),   -- 18
  (modeHeader6, Gen.MODESENSE6_mode_parameter_header_bits), (modeHeader10, Gen.MODESENSE10_mode_parameter_header_bits),   -- 21
  (modePage0Header, Gen.MODESENSE6_page_zero_bits), (modeSubPageHeader, Gen.MODESENSE6_sub_page_bits),   -- 23
  (modeControl, Gen.MODESENSE6_control_bits), (modeControlExt, Gen.MODESENSE6_control_extension_1_bits),   -- 25
  (modeDisconnect, Gen.MODESENSE6_disconnect_reconnect_bits), (modeElementAddress, Gen.MODESENSE6_element_address_bits),   -- 27
  (modePage0Header, Gen.MODESENSE10_page_zero_bits), (modeSubPageHeader, Gen.MODESENSE10_sub_page_bits),   -- 29
  (modeControl, Gen.MODESENSE10_control_bits), (modeControlExt, Gen.MODESENSE10_control_extension_1_bits),   -- 31
  (modeDisconnect, Gen.MODESENSE10_disconnect_reconnect_bits), (modeElementAddress, Gen.MODESENSE10_element_address_bits),   -- 33
  (transportIdHeader, Gen.PersistentReserveInReadFullStatus_transport_id_bits)]   -- 35

def pairOK (x : Block × Layout) : Bool := x.2.wf x.1.len && compatible x.2 x.1.rel x.1.len

theorem pairOK_iff {b : Block} {lay : Layout} :
    pairOK (b, lay) = true ↔ lay.wf b.len = true ∧ compatible lay b.rel b.len = true := by
  simp [pairOK]

theorem all_parameter_tables_conform : pairs.all pairOK = true := by decide +kernel

theorem pairs_at (i : Nat) (h : i < pairs.length := by decide) :
    pairs[i].2.wf pairs[i].1.len = true ∧ compatible pairs[i].2 pairs[i].1.rel pairs[i].1.len = true :=
  pairOK_iff.mp (List.all_eq_true.mp all_parameter_tables_conform _ (List.getElem_mem h))

/-- **values land where the standard puts them**: for a conforming table, encoding any in-range
values into a zeroed buffer of the block's size yields the standard's structure for those values -/
theorem parameter_block_sound (b : Block) (lay : Layout) (h : pairOK (b, lay) = true) (d : Dict)
    (hr : InRange lay d) (hk : KeysDistinct d) :
    encodeDict d lay (zeros b.len) = .ok (b.enc (valsFor lay d)) :=
  encode_sound lay b.rel b.len (pairOK_iff.mp h).1 (pairOK_iff.mp h).2 d hr hk

/-- room for the string and its terminator, a multiple of four, and no more than needed -/
theorem pad4_laws (n : Nat) : Enc.pad4Len n % 4 = 0 ∧ n + 1 ≤ Enc.pad4Len n ∧ Enc.pad4Len n ≤ n + 4 := by
  unfold Enc.pad4Len
  simp only
  split <;> omega

theorem bind_ok {α β : Type} (a : α) (f : α → Except PyErr β) : (Except.ok a >>= f) = f a := rfl

/-- REGISTER AND MOVE: the list is the 24-byte header followed by the TransportID, and the
header's TRANSPORTID PARAMETER DATA LENGTH equals the number of bytes that follow — for every
TransportID of any length. -/
theorem prOut_ram_length_honest (d : PDict) (hk : Keys d) (tid r : Bytes)
    (hr : InRange Gen.PersistentReserveOut_ram_parameter_list_bits
      ((d.set "transportid_length" (.int tid.length)).filterMap (convEntry Gen.PersistentReserveOut_ram_parameter_list_bits)))
    (he : Enc.prOutRamWith d tid = .ok r) :
    ∃ hdr, r = hdr ++ tid ∧ hdr.length = 24 ∧ decodeMask hdr 0xFFFFFFFF 20 = tid.length := by
  unfold Enc.prOutRamWith at he
  obtain ⟨hdr, h1, he⟩ := Except.bind_eq_ok he
  cases he
  exact ⟨hdr, rfl, encodeFrom_length (L := 24) (pairs_at 2).1 h1 hr,
    field_after_set (L := 24) (pairs_at 2).1 hk (by decide +kernel) h1 hr⟩

/-- a length the builders write into a finished buffer, `r[a:b] = scsi_int_to_ba(n, k)`: the buffer keeps its size and
bytes `a … b-1` read back as `n` -/
theorem length_patched (r : Bytes) {a b k : Nat} (n : Nat) (hk : a + k = b) (hb : b ≤ r.length) (hfit : n < 2 ^ (8 * k)) :
    (setSlice r a b (intToBa n k)).length = r.length ∧ baToInt (slice (setSlice r a b (intToBa n k)) a b) = n := by
  obtain ⟨s1, s2⟩ := slice_setSlice r (intToBa n k) a b (by omega) hb (by rw [intToBa_length]; omega)
  exact ⟨s2, by rw [s1, baToInt_intToBa_of_lt n k hfit]⟩

/-- basic list with SPEC_I_PT: 28 header bytes, then the TransportIDs; bytes 24–27 (TRANSPORTID
PARAMETER DATA LENGTH) hold the number of bytes that follow -/
theorem prOut_spec_length_honest (d : PDict) (add r : Bytes) (hfit : add.length < 2 ^ 32)
    (hr : InRange Gen.PersistentReserveOut_basic_parameter_list_bits
      (d.filterMap (convEntry Gen.PersistentReserveOut_basic_parameter_list_bits)))
    (he : Enc.prOutSpecWith d add = .ok r) :
    ∃ hdr, r = hdr ++ add ∧ hdr.length = 28 ∧ baToInt (slice hdr 24 28) = add.length := by
  unfold Enc.prOutSpecWith at he
  obtain ⟨r0, h1, he⟩ := Except.bind_eq_ok he
  cases he
  have hl := encodeFrom_length (L := 28) (pairs_at 1).1 h1 hr
  obtain ⟨s1, s2⟩ := length_patched r0 add.length (a := 24) (k := 4) rfl (by omega) hfit
  exact ⟨_, rfl, by rw [s1, hl], s2⟩

/-- EXTENDED COPY: the header's three list lengths equal the lengths of the CSCD descriptor list,
the segment descriptor list and the inline data that follow it, in that order — for every number
and size of descriptors (both the LID1 and the LID4 header, `t.header`) -/
theorem xcopy_lengths_honest (t : Enc.XTables) (hwf : t.header.wf t.headerLen = true)
    (hdr : PDict) (hk : Keys hdr) (ts ss inline r : Bytes) (tlKey : String)
    (m1 o1 m2 o2 m3 o3 : Nat)
    (hg1 : layoutGet? t.header tlKey = some (.bits m1 o1))
    (hg2 : layoutGet? t.header "segment_descriptor_list_length" = some (.bits m2 o2))
    (hg3 : layoutGet? t.header "inline_data_length" = some (.bits m3 o3))
    (hne1 : tlKey ≠ "segment_descriptor_list_length") (hne2 : tlKey ≠ "inline_data_length")
    (hr : InRange t.header ((((hdr.set tlKey (.int ts.length)).set "segment_descriptor_list_length" (.int ss.length)).set
      "inline_data_length" (.int inline.length)).filterMap (convEntry t.header)))
    (he : Enc.xAssemble t hdr ts ss inline tlKey = .ok r) :
    ∃ h, r = h ++ ts ++ ss ++ inline ∧ h.length = t.headerLen ∧
      decodeMask h m1 o1 = ts.length ∧ decodeMask h m2 o2 = ss.length ∧ decodeMask h m3 o3 = inline.length := by
  unfold Enc.xAssemble at he
  obtain ⟨h, h1, he⟩ := Except.bind_eq_ok he
  cases he
  have hk3 := set_keys _ "inline_data_length" (.int inline.length)
    (set_keys _ "segment_descriptor_list_length" (.int ss.length) (set_keys hdr tlKey (.int ts.length) hk))
  -- each of the three keys is looked up after the three assignments
  exact ⟨h, rfl, encodeFrom_length hwf h1 hr,
    field_of_get? hwf hk3 hg1 (by rw [get?_set_ne _ _ _ _ hne2, get?_set_ne _ _ _ _ hne1, get?_set_self]) h1 hr,
    field_of_get? hwf hk3 hg2 (by rw [get?_set_ne _ _ _ _ (by decide), get?_set_self]) h1 hr,
    field_of_get? hwf hk3 hg3 (get?_set_self _ _ _) h1 hr⟩

/-- the LID1 and LID4 headers meet the side conditions of `xcopy_lengths_honest` -/
theorem xcopy_header_tables_ok :
    (Enc.x4.header.wf Enc.x4.headerLen && Enc.x5.header.wf Enc.x5.headerLen) = true ∧
    layoutGet? Enc.x4.header "target_descriptor_list_length" = some (.bits 0xFFFF 2) ∧
    layoutGet? Enc.x4.header "segment_descriptor_list_length" = some (.bits 0xFFFFFFFF 8) ∧
    layoutGet? Enc.x4.header "inline_data_length" = some (.bits 0xFFFFFFFF 12) ∧
    layoutGet? Enc.x5.header "cscd_descriptor_list_length" = some (.bits 0xFFFF 42) ∧
    layoutGet? Enc.x5.header "segment_descriptor_list_length" = some (.bits 0xFFFF 44) ∧
    layoutGet? Enc.x5.header "inline_data_length" = some (.bits 0xFFFF 46) :=
  -- the headers are rows 3 and 4 of `pairs`; the six positions are looked up in the regenerated tables
  ⟨Bool.and_eq_true_iff.mpr ⟨(pairs_at 3).1, (pairs_at 4).1⟩, by decide +kernel⟩

/-- iSCSI TransportID: the buffer has room for the string and its terminator, its size is a
multiple of four plus the 4-byte header, and ADDITIONAL LENGTH (bytes 2–3) is the number of bytes
that follow it — for every string length -/
theorem iscsi_transport_id_length_honest (d : PDict) (s : String) (r : Bytes)
    (hascii : (Enc.strBytes s).length = s.length) (hfit : Enc.pad4Len s.length < 2 ^ 16)
    (hr : InRange Gen.PersistentReserveInReadFullStatus_transport_id_bits
      (d.filterMap (convEntry Gen.PersistentReserveInReadFullStatus_transport_id_bits)))
    (hwf : Gen.PersistentReserveInReadFullStatus_transport_id_bits.wf (4 + Enc.pad4Len s.length) = true)
    (he : Enc.transportIdIscsi d s = .ok r) :
    r.length = 4 + Enc.pad4Len s.length ∧ (r.length - 4) % 4 = 0 ∧ s.length + 1 ≤ r.length - 4 ∧
    baToInt (slice r 2 4) = r.length - 4 ∧ slice r 4 (s.length + 4) = Enc.strBytes s := by
  unfold Enc.transportIdIscsi at he
  obtain ⟨r0, h1, he⟩ := Except.bind_eq_ok he
  cases he
  have hl := encodeFrom_length hwf h1 hr
  obtain ⟨p1, p2, _⟩ := pad4_laws s.length
  -- what ADDITIONAL LENGTH is set to: the bytes after the 4-byte header
  have hsub : r0.length - 4 = Enc.pad4Len s.length := by rw [hl, Nat.add_sub_cancel_left]
  obtain ⟨a2, a1⟩ := length_patched r0 (r0.length - 4) (a := 2) (k := 2) rfl (by rw [hl]; exact Nat.le_add_right 4 _)
    (by rw [hsub]; exact hfit)
  -- `r1`: the buffer once ADDITIONAL LENGTH is written, before the name is
  generalize setSlice r0 2 4 (intToBa (r0.length - 4) 2) = r1 at a1 a2 ⊢
  have hfits : s.length + 4 ≤ r1.length := by rw [a2, hl]; omega
  obtain ⟨b1, b2⟩ := slice_setSlice r1 (Enc.strBytes s) 4 (s.length + 4) (Nat.le_add_left 4 _) hfits
    (by rw [hascii, Nat.add_sub_cancel])
  rw [b2, a2, hsub]
  refine ⟨hl, p1, p2, ?_, b1⟩
  -- bytes 2–3 are untouched by the write of the name at 4
  rw [slice_setSlice_before r1 (Enc.strBytes s) 4 (s.length + 4) 2 4 (by decide) (Nat.le_trans (Nat.le_add_left 4 _) hfits),
    a1, hsub]

end C05
