import ScsiVerif.Model.Formats.Decode
import ScsiVerif.Lemmas.Except
/-!
# C11 — decoding device data always terminates, whatever the bytes

Every decoder model in `Dec` is a total Lean function: each `while len(data): …; data = data[k:]`
loop is a recursion that Lean accepts only with a proof that the remaining buffer shrinks
(`decreasing_by … omega` next to each definition — the stride is `≥ 4`, `= 8`, `= 16`, `≥ 8`,
`≥ 24`, or the explicit guard `_edl ≠ 0`).  The theorems below bound the number of loop iterations
by the size of the buffer, **for every byte string of every length**.
-/
namespace C11
open Conv PVal Dec

/-- **the shape all buffer loops share**: `n d` iterations on buffer `d`; either none, or the buffer is not
empty and the rest of the loop runs on a buffer at least `k` bytes shorter.  Then at most ⌈len / k⌉ iterations. -/
theorem stride_bound (k : Nat) (hk : 0 < k) (n : Bytes → Nat)
    (step : ∀ d, n d = 0 ∨ (d.length ≠ 0 ∧ ∃ m, k ≤ m ∧ n d ≤ n (d.drop m) + 1)) (d : Bytes) :
    n d * k ≤ d.length + (k - 1) := by
  induction hn : d.length using Nat.strongRecOn generalizing d with
  | _ len ih =>
    subst hn
    rcases step d with h0 | ⟨hd, m, hm, hle⟩
    · rw [h0]; omega
    · refine Nat.le_trans (Nat.mul_le_mul_right k hle) ?_
      rw [Nat.succ_mul]
      by_cases hml : m ≤ d.length
      · have := ih (d.drop m).length (by simp; omega) (d.drop m) rfl
        simp only [List.length_drop] at this
        omega
      · -- the stride went past the end: nothing is left, and an empty buffer has no iteration
        rw [(step (d.drop m)).resolve_right fun h => h.1 (by simp; omega)]
        omega

/-- fixed-stride loops (`GET LBA STATUS`: 16, `REPORT LUNS` / `READ KEYS`: 8, port lists: 4):
at most one iteration per byte -/
theorem pieces_iterations_le (k : Nat) (hk : 0 < k) (d : Bytes) : (pieces k d).length ≤ d.length := by
  have := stride_bound 1 (by decide) (fun d => (pieces k d).length) (fun d => by
    rw [pieces]
    split
    · exact .inl rfl
    · exact .inr ⟨by omega, k, hk, Nat.le_refl _⟩) d
  simpa using this

/-- Device Identification VPD page: at most one iteration per 4 bytes (+1 for a short tail) -/
theorem desChunks_iterations (d : Bytes) : (desChunks d).length * 4 ≤ d.length + 3 := by
  refine stride_bound 4 (by decide) (fun d => (desChunks d).length) (fun d => ?_) d
  rw [desChunks]
  split
  · exact .inl rfl
  · split
    · exact .inr ⟨by assumption, 4, Nat.le_refl 4, Nat.le_add_left 1 _⟩
    · exact .inr ⟨by assumption, _, Nat.le_add_left 4 _, Nat.le_refl _⟩

/-- REPORT TARGET PORT GROUPS: at most one descriptor iteration per 8 bytes (+1) -/
theorem tpgChunks_iterations (d : Bytes) : (tpgChunks d).length * 8 ≤ d.length + 7 := by
  refine stride_bound 8 (by decide) (fun d => (tpgChunks d).length) (fun d => ?_) d
  rw [tpgChunks]
  split
  · exact .inl rfl
  · exact .inr ⟨by assumption, _, Nat.le_add_right 8 _, Nat.le_refl _⟩

/-- iterations of a loop that may raise: the length of the list it returns.  Below, `fun_cases` gives the branches of
a loop's definition in its order: first those that count nothing (the guard ends the loop, or a step raises), last the
iteration that returns, with what the rest of the loop returned on the shorter buffer (`hrest`, `hmore`). -/
def iters {α : Type} : Except PyErr (List α) → Nat
  | .ok r => r.length
  | .error _ => 0

/-- READ ELEMENT STATUS, inner loop: with the guard `_edl ≠ 0` at most one iteration per byte -/
theorem elementDescriptors_iterations (d : Bytes) (edl pvol avol ety : Nat) (r : List PV)
    (h : elementDescriptors d edl pvol avol ety = .ok r) : r.length ≤ d.length := by
  have := stride_bound 1 (by decide) (fun d => iters (elementDescriptors d edl pvol avol ety)) (fun d => by
    fun_cases elementDescriptors d edl pvol avol ety with
    | case1 | case2 | case3 => exact .inl rfl
    | case4 h0 rr _ rest hrest => exact .inr ⟨fun h => h0 (.inl h), edl, by omega, by simp [iters, hrest]⟩) d
  simpa [h, iters] using this

/-- READ ELEMENT STATUS, outer loop: at most one page iteration per 8 bytes (+1) -/
theorem elementPages_iterations (d : Bytes) (r : List PV) (h : elementPages d = .ok r) : r.length * 8 ≤ d.length + 7 := by
  have := stride_bound 8 (by decide) (fun d => iters (elementPages d)) (fun d => by
    fun_cases elementPages d with
    | case1 | case2 | case3 => exact .inl rfl
    | case4 h0 rr _ rest hrest => exact .inr ⟨h0, 8 + b2i (slice d 5 8), Nat.le_add_right 8 _, by simp [iters, hrest]⟩) d
  simpa [h, iters] using this

/-- PERSISTENT RESERVE IN READ FULL STATUS: at most one descriptor per 24 bytes (+1) -/
theorem fullStatus_iterations (d : Bytes) (r : List PV) (h : fullStatusDescriptors d = .ok r) :
    r.length * 24 ≤ d.length + 23 := by
  have := stride_bound 24 (by decide) (fun d => iters (fullStatusDescriptors d)) (fun d => by
    fun_cases fullStatusDescriptors d with
    | case1 | case2 | case3 | case4 => exact .inl rfl
    | case5 h0 sd adl _ ha tid _ more hmore => -- a descriptor with a TransportID of `adl` bytes
      exact .inr ⟨h0, 24 + adl, Nat.le_add_right 24 _, by rw [List.drop_drop] at hmore; simp [iters, hmore]⟩
    | case6 h0 sd adl _ ha => -- ADDITIONAL DESCRIPTOR LENGTH 0: the descriptor is skipped, not reported
      exact .inr ⟨h0, 24, Nat.le_refl _, Nat.le_add_right _ 1⟩) d
  simpa [h, iters] using this

/-- REPORT PRIORITY: at most one descriptor per 8 bytes (+1) -/
theorem priority_iterations (d : Bytes) (r : List PV) (h : priorityDescriptors d = .ok r) :
    r.length * 8 ≤ d.length + 7 := by
  have := stride_bound 8 (by decide) (fun d => iters (priorityDescriptors d)) (fun d => by
    fun_cases priorityDescriptors d with
    | case1 | case2 | case3 | case4 => exact .inl rfl
    | case5 h0 rr _ adlen _ rest hrest => exact .inr ⟨h0, adlen + 8, Nat.le_add_left 8 _, by simp [iters, hrest]⟩) d
  simpa [h, iters] using this

/-- READ CD: exactly `tl` iterations, the caller's transfer length (the buffer has `3072·tl` bytes) -/
theorem readCd_iterations (d : Bytes) (m est c2ei scsb lba tl : Nat) (r : List (String × PV))
    (h : readCdLoop d m est c2ei scsb lba tl = .ok r) : r.length = tl := by
  induction tl generalizing d lba r with
  | zero => cases h; rfl
  | succ n ih =>
    obtain ⟨p, _, h⟩ := Except.bind_eq_ok h
    obtain ⟨rest, hrest, h⟩ := Except.bind_eq_ok h
    cases h
    rw [List.length_cons, ih _ _ _ hrest]

/-! The defect that was repaired: an element descriptor length of 0. -/

/-- the loop as it was before the repair, with fuel: `while len(_d): …; _d = _d[_edl:]` -/
def oldInnerLoop (d : Bytes) (edl : Nat) : Nat → Option Nat
  | 0 => none
  | f + 1 => if d.length = 0 then some 0 else (oldInnerLoop (d.drop edl) edl f).map (· + 1)

/-- with `_edl = 0` and a non-empty page no amount of fuel suffices: the original code never returned -/
theorem old_loop_diverges (d : Bytes) (hd : d ≠ []) (fuel : Nat) : oldInnerLoop d 0 fuel = none := by
  induction fuel with
  | zero => rfl
  | succ f ih =>
    have : d.length ≠ 0 := by simpa using hd
    simp [oldInnerLoop, this, ih]

/-- … whereas the repaired loop stops at once -/
theorem repaired_loop_stops (d : Bytes) (pvol avol ety : Nat) : elementDescriptors d 0 pvol avol ety = .ok [] := by
  unfold elementDescriptors
  simp

end C11
